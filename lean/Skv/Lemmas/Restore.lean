import Skv.Model.Restore
import Skv.Lemmas.ListAux

/-! `s.file id` unfolds to `List.aget s.files id`, `s.cached id off` to `List.aget s.cache (id, off)`. -/

theorem file_writeTable (s : RStore) (blocks : List Nat) (id : Nat) :
    (s.writeTable blocks).file id = if id = s.nextId then some blocks else s.file id :=
  List.aget_cons _ s.files id

theorem file_deleteTable (s : RStore) (d id : Nat) :
    (s.deleteTable d).file id = if id = d then none else s.file id := List.aget_filter_ne s.files d id

theorem RStore.coherent.file_lt {s : RStore} (h : s.coherent) {id : Nat} {bl : List Nat}
    (hf : s.file id = some bl) : id < s.nextId := h.2 _ (List.mem_of_aget_eq_some hf)

theorem RStore.coherent.cached {s : RStore} (h : s.coherent) {id off b : Nat} {bl : List Nat}
    (hc : s.cached id off = some b) (hf : s.file id = some bl) : bl[off]? = some b :=
  (h.1 _ (List.mem_of_aget_eq_some hc)).2 bl hf

theorem RStore.coherent.readBlock_eq_truth {s : RStore} (h : s.coherent) {id : Nat} (hx : s.file id ≠ none)
    (off : Nat) : (s.readBlock id off).2 = s.truth id off := by
  obtain ⟨bl, hf⟩ := Option.ne_none_iff_exists'.mp hx
  unfold RStore.readBlock
  split
  next c hc => rw [RStore.truth, hf]; exact (h.cached hc hf).symm
  next =>
    split
    next b hb => exact hb.symm
    next hb => exact hb.symm

theorem coherent_init : ({} : RStore).coherent := ⟨fun _ he => (nomatch he), fun _ hf => nomatch hf⟩

theorem RStore.coherent.writeTable {s : RStore} (h : s.coherent) (blocks : List Nat) : (s.writeTable blocks).coherent := by
  constructor
  · intro e he
    obtain ⟨h1, h2⟩ := h.1 e he
    refine ⟨Nat.lt_succ_of_lt h1, fun bl hbl => h2 bl ?_⟩
    rwa [file_writeTable, if_neg (Nat.ne_of_lt h1)] at hbl
  · intro f hf
    rcases List.mem_cons.mp hf with rfl | hf
    · exact Nat.lt_succ_self _
    · exact Nat.lt_succ_of_lt (h.2 f hf)

theorem RStore.coherent.deleteTable {s : RStore} (h : s.coherent) (d : Nat) : (s.deleteTable d).coherent := by
  refine ⟨fun e he => ⟨(h.1 e he).1, fun bl hbl => (h.1 e he).2 bl ?_⟩, fun f hf => h.2 f (List.mem_filter.mp hf).1⟩
  rw [file_deleteTable] at hbl
  split at hbl
  · cases hbl
  · exact hbl

theorem RStore.coherent.readBlock {s : RStore} (h : s.coherent) (id off : Nat) : (s.readBlock id off).1.coherent := by
  unfold RStore.readBlock
  split
  · exact h
  · split
    next b hb =>
      obtain ⟨bl, hf, hb⟩ := Option.bind_eq_some_iff.mp hb
      exact ⟨List.forall_mem_cons.mpr ⟨⟨h.file_lt hf, fun bl' hbl' => by cases hf.symm.trans hbl'; exact hb⟩, h.1⟩, h.2⟩
    next => exact h

theorem coherent_restore_clear (s : RStore) {c : Ckpt} (hc : ∀ f ∈ c.files, f.1 < c.nextId) :
    (s.restore c true).coherent :=
  ⟨fun _ he => (nomatch he), hc⟩
