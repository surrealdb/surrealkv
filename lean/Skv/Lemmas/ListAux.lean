/-!
Facts about lists that mention nothing of the model: association lists read with `find?` on the first
component (which several model functions are), members of a list ordered by a relation, `List.set`.
-/

namespace List
variable {α κ β : Type}

section Assoc
variable [BEq κ] [LawfulBEq κ] {l : List (κ × β)} {k : κ}

/-- The value under `k` in an association list; the model's lookups on the first component unfold to this. -/
def aget (l : List (κ × β)) (k : κ) : Option β := (l.find? (fun p => p.1 == k)).map (·.2)

theorem aget_cons [DecidableEq κ] (q : κ × β) (l : List (κ × β)) (k : κ) :
    aget (q :: l) k = if k = q.1 then some q.2 else aget l k := by
  rw [aget, find?_cons]
  split <;> rename_i h
  · rw [if_pos (eq_of_beq h).symm]; rfl
  · rw [if_neg (Ne.symm (ne_of_beq_false h))]; rfl

theorem find?_key_eq_some {f : α → κ} {l : List α} {a : α} (h : l.find? (fun x => f x == k) = some a) :
    a ∈ l ∧ f a = k :=
  ⟨mem_of_find?_eq_some h, eq_of_beq (find?_some (p := fun x => f x == k) h)⟩

theorem mem_of_aget_eq_some {v : β} (h : aget l k = some v) : (k, v) ∈ l := by
  obtain ⟨p, hp, rfl⟩ := Option.map_eq_some_iff.mp h
  obtain ⟨hm, rfl⟩ := find?_key_eq_some hp
  exact hm

theorem aget_eq_none_iff : aget l k = none ↔ k ∉ l.map (·.1) := by
  rw [aget, Option.map_eq_none_iff, find?_eq_none, mem_map]
  exact ⟨fun h ⟨e, he, hk⟩ => h e he (beq_iff_eq.mpr hk), fun h e he hk => h ⟨e, he, eq_of_beq hk⟩⟩

theorem aget_filter_ne [DecidableEq κ] (l : List (κ × β)) (d k : κ) :
    aget (l.filter fun q => q.1 != d) k = if k = d then none else aget l k := by
  induction l with
  | nil => exact (ite_self _).symm
  | cons q l ih =>
    rw [filter_cons, apply_ite (aget · k), aget_cons, aget_cons, ih]
    by_cases hq : k = q.1
    · subst hq
      by_cases hd : q.1 = d <;> simp [hd]
    · simp only [if_neg hq, ite_self]

end Assoc

section Pairwise
variable {R : α → α → Prop} {l : List α}

theorem Pairwise.eq_or_rel (h : l.Pairwise R) {a b : α} (ha : a ∈ l) (hb : b ∈ l) : a = b ∨ R a b ∨ R b a :=
  Pairwise.forall_of_forall_of_flip (R := fun a b => a = b ∨ R a b ∨ R b a) (fun _ _ => .inl rfl)
    (h.imp fun r => .inr (.inl r)) (h.imp fun r => .inr (.inr r)) ha hb

end Pairwise

section Set

theorem getElem?_set_self_of {l : List α} {i : Nat} {x y : α} (h : l[i]? = some x) :
    (l.set i y)[i]? = some y :=
  List.getElem?_set_self (List.getElem?_eq_some_iff.mp h).1

theorem set_eq_of_getElem?_eq_some {l : List α} {i : Nat} {x : α} (h : l[i]? = some x) : l.set i x = l := by
  obtain ⟨hlt, rfl⟩ := List.getElem?_eq_some_iff.mp h
  exact List.set_getElem_self hlt

theorem getElem?_set_cases {l : List α} {i j : Nat} {x y : α} (h : (l.set i x)[j]? = some y) :
    j = i ∧ y = x ∨ j ≠ i ∧ l[j]? = some y := by
  rw [List.getElem?_set] at h
  split at h
  · split at h
    · exact .inl ⟨‹i = j›.symm, (Option.some.inj h).symm⟩
    · cases h
  · exact .inr ⟨fun e => ‹¬ i = j› e.symm, h⟩

theorem sum_map_set (f : α → Nat) {l : List α} {i : Nat} {old : α} (x : α) (h : l[i]? = some old) :
    ((l.set i x).map f).sum + f old = (l.map f).sum + f x := by
  induction l generalizing i with
  | nil => cases h
  | cons y ys ih =>
    cases i with
    | zero => simp at h; subst h; simp; omega
    | succ n =>
      simp at h
      have := ih h
      simp only [List.set_cons_succ, List.map_cons, List.sum_cons]
      omega

end Set

section Erase

theorem length_erase_succ [BEq α] [LawfulBEq α] {l : List α} {o : α} (h : o ∈ l) :
    (l.erase o).length + 1 = l.length := by
  rw [List.length_erase_of_mem h, Nat.sub_add_cancel (List.length_pos_of_mem h)]

end Erase

end List
