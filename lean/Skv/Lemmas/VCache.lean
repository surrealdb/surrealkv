import Skv.Model.VCache
import Skv.Lemmas.ListAux

/-- everything cached passed verification and is what is on disk -/
def CacheOk (raw : Nat → List Nat) (ok : Nat → Bool) (c : VCache) : Prop :=
  ∀ e ∈ c.entries, ok e.1 = true ∧ e.2 = raw e.1

/-- `c.lookup id` unfolds to `List.aget c.entries id` -/
theorem lookup_ok {raw ok} {c : VCache} (h : CacheOk raw ok c) {id : Nat} {v : List Nat}
    (hl : c.lookup id = some v) : ok id = true ∧ v = raw id := h _ (List.mem_of_aget_eq_some hl)

theorem get_ok {raw ok} {c : VCache} (h : CacheOk raw ok c) (id : Nat) :
    CacheOk raw ok (c.get raw ok id).1 ∧ ∀ v, (c.get raw ok id).2 = some v → ok id = true ∧ v = raw id := by
  unfold VCache.get
  split
  next v hl => exact ⟨h, fun v' hv => by cases hv; exact lookup_ok h hl⟩
  next =>
    split
    next hok => exact ⟨List.forall_mem_cons.mpr ⟨⟨hok, rfl⟩, h⟩, fun v hv => by cases hv; exact ⟨hok, rfl⟩⟩
    next => exact ⟨h, fun v hv => nomatch hv⟩

theorem gets_ok {raw ok} {c : VCache} (h : CacheOk raw ok c) (ids : List Nat) :
    ∀ r ∈ VCache.gets raw ok c ids, ∀ v, r.2 = some v → ok r.1 = true ∧ v = raw r.1 := by
  induction ids generalizing c with
  | nil => intro r hr; cases hr
  | cons id ids ih =>
    intro r hr
    have hg := get_ok h id
    rcases List.mem_cons.mp hr with rfl | hr
    · exact hg.2
    · exact ih hg.1 r hr
