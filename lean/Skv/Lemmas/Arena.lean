import Skv.Model.Arena

theorem ArenaCfg.node_le_nodeMax (c : ArenaCfg) {h : Nat} (hh : h ≤ c.maxH) : c.node h ≤ c.nodeMax :=
  Nat.add_le_add_left (Nat.mul_le_mul_right _ (Nat.sub_le_sub_right hh 1)) _

theorem ArenaCfg.nodeMin_le_node (c : ArenaCfg) (h : Nat) : c.nodeMin ≤ c.node h := Nat.le_add_right _ _

theorem ArenaCfg.node_one (c : ArenaCfg) : c.node 1 = c.nodeMin := by simp [ArenaCfg.node]

theorem le_arenaSizeFor (c : ArenaCfg) (ds : List Nat) (u : Nat) : u ≤ arenaSizeFor c u ds := by
  induction ds generalizing u with
  | nil => exact Nat.le_refl _
  | cons d rest ih => exact Nat.le_trans (by omega) (ih (u + c.nodeMax + d + 7))

theorem bump_le {n m x y : Nat} (hnm : n ≤ m) (hxy : x ≤ y) (d : Nat) : n + x + d + 7 ≤ m + y + d + 7 :=
  Nat.add_le_add_right (Nat.add_le_add_right (Nat.add_le_add hnm hxy) d) 7

/-- `m` is the pointer `arena_size_for` reckons with (full towers); the bump pointer `n` never gets ahead of it -/
theorem addAll_sized {c : ArenaCfg} {es : List (Nat × Nat)} {n m cap : Nat} (hnm : n ≤ m)
    (hh : ∀ e ∈ es, e.2 ≤ c.maxH) (hcap : arenaSizeFor c m (es.map (·.1)) ≤ cap) :
    (addAll c cap n es).isSome = true := by
  induction es generalizing n m with
  | nil => rfl
  | cons e rest ih =>
    obtain ⟨data, h⟩ := e
    simp only [List.map_cons, arenaSizeFor] at hcap
    have hm := le_arenaSizeFor c (rest.map (·.1)) (m + c.nodeMax + data + 7)
    have hn := c.node_le_nodeMax (hh (data, h) List.mem_cons_self)
    rw [addAll, if_pos (Nat.le_trans (bump_le hnm (Nat.le_refl _) data) (Nat.le_trans hm hcap))]
    exact ih (bump_le hnm hn data) (fun e he => hh e (List.mem_cons_of_mem _ he)) hcap

/-- `u` is the pointer of the admission check (towers of height one); it never gets ahead of the bump pointer `n` -/
theorem addAll_refused {c : ArenaCfg} {es : List (Nat × Nat)} {n u cap : Nat} (hun : u ≤ n)
    (hf : fitsEmpty c cap u (es.map (·.1)) = false) : addAll c cap n es = none := by
  induction es generalizing n u with
  | nil => cases hf
  | cons e rest ih =>
    obtain ⟨data, h⟩ := e
    simp only [List.map_cons, fitsEmpty, Bool.and_eq_false_iff, decide_eq_false_iff_not] at hf
    rw [addAll]
    split
    next hfit =>
      rcases hf with hf | hf
      · exact absurd (Nat.le_trans (bump_le hun (Nat.le_refl _) data) hfit) hf
      · exact ih (bump_le hun (c.nodeMin_le_node h) data) hf
    next => rfl

theorem addAll_admitted {c : ArenaCfg} {ds : List Nat} {n cap : Nat} (hf : fitsEmpty c cap n ds = true) :
    (addAll c cap n (ds.map (fun d => (d, 1)))).isSome = true := by
  induction ds generalizing n with
  | nil => rfl
  | cons d rest ih =>
    simp only [fitsEmpty, Bool.and_eq_true, decide_eq_true_eq] at hf
    rw [List.map_cons, addAll, if_pos hf.1, c.node_one]
    exact ih hf.2
