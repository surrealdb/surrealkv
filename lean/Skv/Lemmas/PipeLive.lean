import Skv.Lemmas.PipeStep
/-!
# Progress of the commit pipeline (C17)

`LS` is the projection (`proj`) of a pipeline state onto what decides whether threads can move: the queue
as (first, applied) pairs, the *class* of every thread's program counter, the completed batches and the
permit bookkeeping.  The classes, in the terms of `commit()` / `publish()` in src/commit.rs:
`idle` between calls; `begun` before `commit_sem.acquire`; `permit` holding the permit, before the
critical section; `work f` batch `f` enqueued, applying it or about to `mark_applied`; `pend f k` at the
top of the publish loop (`k`: how the own batch failed, if it did); `hold f k b` inside the loop with the
dequeued batch `b` in hand, before `complete(Ok)` and the drop of `b`; `post f` past `publish()`, about
to read or await the own completion; `postF f` past `publish()` with a failed batch, about to return.

Every step of the pipeline model is one of the operations `LStep` on the projection (`Step.sim`), and
each of them keeps the liveness invariant `LInv` (`LStep.linv`).  Its fields: the permits are all
accounted for by distinct tokens (`sum`, `nd`), a thread's exactly while it is at `permit` (`thrP`) and a
batch's until it has both returned and been dropped (`batRD`); every unapplied queue entry has its worker
(`unapplied`); an applied head has a pending publisher (`headApplied`); every batch that a call still
waits for (`waitOk`), or that owns a permit and has not been dropped (`batDrop`), is in the queue or in a
publisher's hands, and one that owns a permit and has not returned has its thread (`batRet`); batch
numbers in use lie below the allocation counter (`batLt`, `qLt`, `holdLt`, `dropLt`).  So the threads that
do not move of themselves (waiting for a permit or for a completion) always have somebody moving on
their behalf: `quiet_all_idle`.

Preservation has two layers.  Completions, `returned`, `dropped` and the release of a batch's token each
change one component that few fields read (`linv_addDone`, `linv_returned`, `linv_dropped`,
`linv_release_bat`).  Everything else is one thread changing class together with the queue, the tokens
or the allocation counter: `linv_move` says once what such a move has to respect, and the operations are
instances of it.
-/
open PState

inductive Cls
  | idle | begun | permit
  | work (f : Nat)
  | pend (f : Nat) (k : FK)
  | hold (f : Nat) (k : FK) (b : Nat)
  | post (f : Nat)
  | postF (f : Nat)
deriving DecidableEq, Repr

def cls : Pc → Cls
  | .ready => .idle
  | .begun _ => .begun
  | .havePermit _ => .permit
  | .applying f _ _ => .work f
  | .afterApply f _ _ => .work f
  | .afterMark f k => .pend f k
  | .walFailed f => .pend f .wal
  | .pubDequeued b f k => .hold f k b.first
  | .pubVisible b f k => .hold f k b.first
  | .afterPublish f k => if k = .none then .post f else .postF f
  | .waiting f => .post f

structure LS where
  q : List (Nat × Bool)
  th : List Cls
  done : List Nat
  owners : List Own
  permits : Nat
  returned : List Nat
  dropped : List Nat
  next : Nat

def proj (s : PState) : LS :=
  { q := s.queue.map (fun b => (b.first, b.applied)), th := s.threads.map (fun t => cls t.pc),
    done := s.completed.map (·.1), owners := s.owners, permits := s.permits,
    returned := s.returned, dropped := s.dropped, next := s.logSeq }

namespace LS

def release (a : LS) (o : Own) : LS :=
  { a with permits := if a.owners.contains o then a.permits + 1 else a.permits, owners := a.owners.erase o }

def addDone (a : LS) (f : Nat) : LS := { a with done := if a.done.contains f then a.done else f :: a.done }

def setC (a : LS) (i : Nat) (c : Cls) : LS := { a with th := a.th.set i c }

def finishNone (a : LS) (i : Nat) : LS := (a.setC i .idle).release (.thr i)

def finishSome (a : LS) (i : Nat) (f : Nat) : LS :=
  (if a.dropped.contains f then a.release (.bat f) else { a with returned := f :: a.returned }).setC i .idle

def dropBatch (a : LS) (f : Nat) : LS :=
  if a.returned.contains f then a.release (.bat f) else { a with dropped := f :: a.dropped }

def markQ (a : LS) (f : Nat) : LS := { a with q := a.q.map (fun p => if p.1 == f then (p.1, true) else p) }

def pubTop (a : LS) (i : Nat) (f : Nat) (k : FK) : LS :=
  match a.q with
  | (b, true) :: rest => { a with q := rest, th := a.th.set i (.hold f k b) }
  | _ => if k == .wal then a.finishSome i f else a.setC i (if k = .none then .post f else .postF f)

def acquire (a : LS) (i : Nat) : LS :=
  { a with permits := a.permits - 1, owners := .thr i :: a.owners, th := a.th.set i .permit }

/-- `mark_applied` by the owner of `f`; `k ≠ .none`: the batch failed and its error has been sent first -/
def mark (a : LS) (i : Nat) (f : Nat) (k : FK) : LS :=
  ((if k = .none then a else a.addDone f).markQ f).setC i (.pend f k)

/-- enqueue batch `a.next` of `c ≥ 1` sequence numbers; `wal`: the WAL write fails at once, which amounts to
marking the new batch as failed in the same step -/
def enqueue (a : LS) (i : Nat) (c : Nat) (wal : Bool) : LS :=
  let a1 : LS := { a with next := a.next + c, q := a.q ++ [(a.next, false)],
                          owners := .bat a.next :: a.owners.erase (.thr i) }
  if wal then a1.mark i a.next .wal else a1.setC i (.work a.next)

end LS

inductive LStep (a : LS) : LS → Prop
  | stay : LStep a a
  | toIdle (i : Nat) (hi : a.th[i]? = some .begun) : LStep a (a.setC i .idle)
  | acquire (i : Nat) (hi : a.th[i]? = some .begun) (hp : 0 < a.permits) : LStep a (a.acquire i)
  | finishNone (i : Nat) (hi : a.th[i]? = some .permit) : LStep a (a.finishNone i)
  | enqueue (i c : Nat) (wal : Bool) (hi : a.th[i]? = some .permit) (hc : 1 ≤ c) : LStep a (a.enqueue i c wal)
  | mark (i f : Nat) (k : FK) (hi : a.th[i]? = some (.work f)) : LStep a (a.mark i f k)
  | pubTop (i f : Nat) (k : FK) (hi : a.th[i]? = some (.pend f k)) : LStep a (a.pubTop i f k)
  | publish (i f : Nat) (k : FK) (b : Nat) (hi : a.th[i]? = some (.hold f k b)) :
      LStep a (((a.addDone b).dropBatch b).pubTop i f k)
  | finishSome (i f : Nat) (hi : a.th[i]? = some (.postF f) ∨ (a.th[i]? = some (.post f) ∧ f ∈ a.done)) :
      LStep a (a.finishSome i f)

/-- for a result that equals the operation's only after the record update is unfolded, where `▸` finds
nothing to rewrite -/
theorem LStep.of_eq {a a' b : LS} (h : LStep a a') (e : b = a') : LStep a b := e ▸ h

theorem proj_th {s : PState} {i : Nat} {t : Thread} (h : s.threads[i]? = some t) :
    (proj s).th[i]? = some (cls t.pc) :=
  (List.getElem?_map ..).trans (congrArg (Option.map _) h)

theorem proj_th_inv {s : PState} {k : Nat} {c : Cls} (h : (proj s).th[k]? = some c) :
    ∃ t, s.threads[k]? = some t ∧ cls t.pc = c :=
  Option.map_eq_some_iff.mp (List.getElem?_map .. ▸ h)

theorem proj_setThread (s : PState) (i : Nat) (t : Thread) :
    proj (s.setThread i t) = (proj s).setC i (cls t.pc) :=
  congrArg (fun l => ({ proj s with th := l } : LS)) List.map_set

theorem proj_release (s : PState) (o : Own) : proj (s.release o) = (proj s).release o := by
  unfold PState.release
  split <;> rename_i h
  · simp only [LS.release, proj, h, if_true]
  · simp only [LS.release, proj, h, Bool.false_eq_true, if_false, List.erase_of_not_mem (mt List.contains_iff_mem.mpr h)]

theorem any_fst_eq_contains (l : List (Nat × CRes)) (f : Nat) :
    l.any (fun p => p.1 == f) = (l.map (·.1)).contains f := by
  rw [List.contains_eq_any_beq, List.any_map]
  exact congrArg _ (funext fun p => BEq.comm)

theorem proj_complete (s : PState) (f : Nat) (r : CRes) : proj (s.complete f r) = (proj s).addDone f := by
  unfold PState.complete
  split <;> rename_i h <;> rw [any_fst_eq_contains] at h
  · simp only [LS.addDone, proj, h, if_true]
  · simp only [LS.addDone, proj, h, Bool.false_eq_true, if_false, List.map_cons]

theorem proj_markApplied (s : PState) (f : Nat) : proj (s.markApplied f) = (proj s).markQ f := by
  refine congrArg (fun l => ({ proj s with q := l } : LS)) ?_
  show (s.queue.map _).map _ = (s.queue.map _).map _
  rw [List.map_map, List.map_map]
  exact List.map_congr_left fun b _ => by simp only [Function.comp]; split <;> rfl

theorem proj_markFailed (s : PState) (f : Nat) : proj (s.markFailed f) = proj s := rfl

theorem proj_finish_none (s : PState) (i : Nat) (t : Thread) (r : CRes) :
    proj (s.finish i t r none) = (proj s).finishNone i := by
  unfold PState.finish LS.finishNone
  simp only
  rw [proj_release, proj_setThread]
  rfl

theorem proj_finish_some (s : PState) (i : Nat) (t : Thread) (r : CRes) (f : Nat) :
    proj (s.finish i t r (some f)) = (proj s).finishSome i f := by
  unfold PState.finish LS.finishSome
  show proj (if s.dropped.contains f = true then _ else _) = LS.setC (if s.dropped.contains f = true then _ else _) i _
  split
  · rw [proj_release, proj_setThread]; rfl
  · exact congrArg (fun a : LS => { a with returned := f :: a.returned }) (proj_setThread s i _)

theorem proj_dropBatch (s : PState) (f : Nat) : proj (s.dropBatch f) = (proj s).dropBatch f := by
  unfold PState.dropBatch LS.dropBatch
  have : (proj s).returned = s.returned := rfl
  rw [this]
  split
  · exact proj_release s _
  · rfl

theorem proj_publishTop (s : PState) (i : Nat) (t : Thread) (f : Nat) (k : FK) :
    proj (s.publishTop i t f k) = (proj s).pubTop i f k := by
  have hleave : proj (if (k == FK.wal) = true then s.finish i t CRes.errWal (some f)
      else s.setThread i { t with pc := .afterPublish f k }) =
      (if (k == FK.wal) = true then (proj s).finishSome i f
        else (proj s).setC i (if k = .none then .post f else .postF f)) := by
    cases k
    · exact proj_setThread ..
    · exact proj_setThread ..
    · exact proj_finish_some ..
  unfold PState.publishTop LS.pubTop
  show proj (match s.queue with | b :: rest => _ | [] => _) = (match s.queue.map (fun b => (b.first, b.applied)) with | (b, true) :: rest => _ | _ => _)
  cases s.queue with
  | nil => exact hleave
  | cons b rest =>
    show proj (if b.applied = true then _ else _) = (match (b.first, b.applied) :: rest.map _ with | (b, true) :: rest => _ | _ => _)
    cases b.applied with
    | true => exact congrArg (fun l => ({ proj s with q := rest.map _, th := l } : LS)) List.map_set
    | false => exact hleave

theorem LS.setC_setC (a : LS) (i : Nat) (c c' : Cls) : (a.setC i c).setC i c' = a.setC i c' := by
  simp only [LS.setC, List.set_set]

theorem LS.setC_same {a : LS} {i : Nat} {c : Cls} (h : a.th[i]? = some c) : a.setC i c = a := by
  unfold LS.setC
  rw [List.set_eq_of_getElem?_eq_some h]

theorem completedRes_mem {s : PState} {f : Nat} {r : CRes} (h : s.completedRes f = some r) :
    f ∈ (proj s).done :=
  List.mem_map.mpr ⟨_, completedRes_eq_some h, rfl⟩

theorem completedRes_not_mem {s : PState} {f : Nat} (h : s.completedRes f = none) : f ∉ (proj s).done :=
  List.aget_eq_none_iff.mp h

theorem proj_enq (s : PState) (c : Nat) (o : Oracle) (ow : List Own) :
    proj (enq s c o ow) =
      { proj s with next := s.logSeq + c, q := (proj s).q ++ [(s.logSeq, false)], owners := ow } :=
  congrArg (fun l => ({ proj s with next := s.logSeq + c, q := l, owners := ow } : LS)) List.map_append

theorem Step.sim {s s' : PState} {i : Nat} {t : Thread} (hs : Step s i t s') (hr : ReqInv s)
    (ht : s.threads[i]? = some t) : LStep (proj s) (proj s') := by
  have hth := proj_th ht
  have cl : ∀ {pc}, t.pc = pc → (proj s).th[i]? = some (cls pc) := fun e => e ▸ hth
  -- a step inside one class is no operation at all
  have same : ∀ {pc pc'}, t.pc = pc → cls pc' = cls pc →
      LStep (proj s) (proj (s.setThread i { t with pc := pc' })) := fun e h => by
    rw [proj_setThread, h, ← e, LS.setC_same hth]; exact .stay
  cases hs with
  | stay | overflow => exact .stay
  | retEmpty st hpc => exact proj_setThread .. ▸ .toIdle i (cl hpc)
  | acquire st hpc he hp =>
    exact (LStep.acquire i (cl hpc) hp).of_eq
      (congrArg (fun a : LS => { a with permits := s.permits - 1, owners := .thr i :: s.owners }) (proj_setThread s i _))
  | refuse st hpc => exact proj_finish_none .. ▸ .finishNone i (cl hpc)
  | enqueue st hpc =>
    rw [proj_setThread, proj_enq]
    exact .enqueue i t.req.keys.length false (cl hpc) (hr i t ht st hpc)
  | enqueueWal st hpc =>
    rw [proj_setThread, proj_markFailed, proj_markApplied, proj_complete, proj_enq]
    exact .enqueue i t.req.keys.length true (cl hpc) (hr i t ht st hpc)
  | applyFail _ _ _ hpc | applyNext _ _ _ hpc | applyLast _ _ _ hpc | setVisible _ _ _ hpc | wait _ hpc =>
    exact same hpc rfl
  | markOk f c hpc => rw [proj_setThread, proj_markApplied]; exact .mark i f .none (cl hpc)
  | markErr f c hpc => rw [proj_setThread, proj_markApplied, proj_complete]; exact .mark i f .apply (cl hpc)
  | pubTop f k hpc =>
    rw [proj_publishTop]; exact .pubTop i f k (by rcases hpc with e | ⟨e, rfl⟩ <;> exact cl e)
  | publish b f k hpc =>
    rw [proj_publishTop, proj_dropBatch, proj_complete]; exact .publish i f k b.first (cl hpc)
  | returnErr f k hpc hk =>
    rw [proj_finish_some]; exact .finishSome i f (.inl (by rw [hth, hpc]; simp [cls, hk]))
  | returnRes f r hpc hres =>
    rw [proj_finish_some]
    exact .finishSome i f (.inr ⟨by rcases hpc with e | e <;> exact cl e, completedRes_mem hres⟩)

theorem sim {s : PState} (hr : ReqInv s) (i : Nat) : LStep (proj s) (proj (s.stepThread i)) := by
  rcases step_cases s i with e | ⟨t, ht, hs⟩
  · rw [e]; exact .stay
  · exact hs.sim hr ht

def Cls.own : Cls → Option Nat
  | .work f | .pend f _ | .hold f _ _ | .post f | .postF f => some f
  | _ => none

def Cls.pending : Cls → Bool
  | .pend .. | .hold .. => true
  | _ => false

def Cls.holdsB : Cls → Nat → Bool
  | .hold _ _ b, f => b == f
  | _, _ => false

def wit (th : List Cls) (p : Cls → Bool) : Prop := ∃ (k : Nat) (c : Cls), th[k]? = some c ∧ p c = true

theorem wit_set_mono {th : List Cls} {i : Nat} {cold cnew : Cls} {p : Cls → Bool}
    (hi : th[i]? = some cold) (hm : p cold = true → p cnew = true) (h : wit th p) : wit (th.set i cnew) p := by
  obtain ⟨k, c, hk, hp⟩ := h
  by_cases hki : k = i
  · subst hki
    rw [hi] at hk; cases hk
    exact ⟨k, cnew, List.getElem?_set_self_of hi, hm hp⟩
  · exact ⟨k, c, by rw [List.getElem?_set_ne (Ne.symm hki)]; exact hk, hp⟩

theorem wit_set_new {th : List Cls} {i : Nat} {cold cnew : Cls} {p : Cls → Bool}
    (hi : th[i]? = some cold) (hn : p cnew = true) : wit (th.set i cnew) p :=
  ⟨i, cnew, List.getElem?_set_self_of hi, hn⟩

def inQ (q : List (Nat × Bool)) (f : Nat) : Prop := ∃ ap, (f, ap) ∈ q

/-- batch `f` is somewhere a publisher will find it: in the queue, or in the hands of one -/
def reach (a : LS) (f : Nat) : Prop := inQ a.q f ∨ wit a.th (fun c => c.holdsB f)

structure LInv (P : Nat) (a : LS) : Prop where
  nd : a.owners.Nodup
  sum : a.permits + a.owners.length = P
  thrP : ∀ k, Own.thr k ∈ a.owners ↔ a.th[k]? = some .permit
  batLt : ∀ f, Own.bat f ∈ a.owners → f < a.next
  batRD : ∀ f, Own.bat f ∈ a.owners → ¬(f ∈ a.returned ∧ f ∈ a.dropped)
  batRet : ∀ f, Own.bat f ∈ a.owners → f ∉ a.returned → wit a.th (fun c => c.own == some f)
  batDrop : ∀ f, Own.bat f ∈ a.owners → f ∉ a.dropped → reach a f
  unapplied : ∀ f, (f, false) ∈ a.q → wit a.th (fun c => c == .work f)
  headApplied : ∀ b rest, a.q = (b, true) :: rest → wit a.th Cls.pending
  waitOk : ∀ (k : Nat) (c : Cls) (f : Nat), a.th[k]? = some c → c.own = some f → f ∉ a.done → reach a f
  qLt : ∀ p ∈ a.q, p.1 < a.next
  holdLt : ∀ (k g : Nat) (kk : FK) (b : Nat), a.th[k]? = some (.hold g kk b) → b < a.next
  dropLt : ∀ f ∈ a.dropped, f < a.next

/-- nobody can move except by getting a permit or by being completed -/
def quiet (a : LS) : Prop :=
  ∀ (k : Nat) (c : Cls), a.th[k]? = some c → c = .idle ∨ c = .begun ∨ ∃ f, c = .post f ∧ f ∉ a.done

/-- a quiet state is at rest: every thread is idle or about to ask for a permit, and all permits are free
(so a thread that waits for a completion, or for a permit while `0 < P`, has somebody who can move).
Nobody is working, pending or holding, so the queue is empty (its head would need a worker or a pending
publisher) and no batch is within reach; then nobody can be waiting (`waitOk`), and no token is left:
a thread's needs a thread at `permit`, a batch's needs an owner or a batch within reach. -/
theorem quiet_all_idle {P : Nat} {a : LS} (h : LInv P a) (hq : quiet a) :
    (∀ (k : Nat) (c : Cls), a.th[k]? = some c → c = .idle ∨ c = .begun) ∧ a.permits = P := by
  have nowit : ∀ p : Cls → Bool, p .idle = false → p .begun = false → (∀ f, p (.post f) = false) → ¬ wit a.th p := by
    intro p h1 h2 h3 ⟨k, c, hk, hp⟩
    rcases hq k c hk with rfl | rfl | ⟨f, rfl, _⟩
    · exact Bool.false_ne_true (h1 ▸ hp)
    · exact Bool.false_ne_true (h2 ▸ hp)
    · exact Bool.false_ne_true (h3 f ▸ hp)
  have qempty : a.q = [] := by
    match hqq : a.q with
    | [] => rfl
    | (b, false) :: rest => exact absurd (h.unapplied b (hqq ▸ List.mem_cons_self)) (nowit _ rfl rfl fun _ => rfl)
    | (b, true) :: rest => exact absurd (h.headApplied b rest hqq) (nowit _ rfl rfl fun _ => rfl)
  have noReach : ∀ f, ¬ reach a f := fun f hr =>
    hr.elim (fun ⟨_, hm⟩ => nomatch qempty ▸ hm) (nowit _ rfl rfl fun _ => rfl)
  have noPost : ∀ (k : Nat) (c : Cls), a.th[k]? = some c → c = .idle ∨ c = .begun := fun k c hk =>
    (hq k c hk).imp_right fun h1 => h1.resolve_right fun ⟨f, e, hf⟩ => noReach f (h.waitOk k c f hk (e ▸ rfl) hf)
  refine ⟨noPost, ?_⟩
  have hown : a.owners = [] := List.eq_nil_iff_forall_not_mem.mpr fun o hmem => by
    cases o with
    | thr k => rcases noPost k _ ((h.thrP k).mp hmem) with h1 | h1 <;> cases h1
    | bat f =>
      by_cases hr : f ∈ a.returned
      · exact h.batRD f hmem ⟨hr, Classical.byContradiction fun hd => noReach f (h.batDrop f hmem hd)⟩
      · obtain ⟨k, c, hk, hp⟩ := h.batRet f hmem hr
        rcases noPost k c hk with rfl | rfl <;> cases hp
  simpa [hown] using h.sum

theorem thr_token_iff {a : LS} {i : Nat} {cold cnew : Cls} (h : ∀ k, Own.thr k ∈ a.owners ↔ a.th[k]? = some .permit)
    (hi : a.th[i]? = some cold) (hp1 : cold ≠ .permit) (hp2 : cnew ≠ .permit) :
    Own.thr i ∈ a.owners ↔ cnew = .permit :=
  ⟨fun hm => absurd (Option.some.inj (hi.symm.trans ((h i).mp hm))) hp1, fun e => absurd e hp2⟩

theorem LS.release_of_not_mem {a : LS} {o : Own} (h : o ∉ a.owners) : a.release o = a := by
  simp only [LS.release, List.erase_of_not_mem h, mt List.contains_iff_mem.mp h, Bool.false_eq_true, if_false]

theorem LS.dropBatch_th (a : LS) (f : Nat) : (a.dropBatch f).th = a.th := by unfold LS.dropBatch; split <;> rfl
theorem LS.dropBatch_done (a : LS) (f : Nat) : (a.dropBatch f).done = a.done := by
  unfold LS.dropBatch; split <;> rfl

theorem linv_release_bat {P : Nat} {a : LS} (h : LInv P a) (f : Nat) : LInv P (a.release (.bat f)) := by
  by_cases hm : Own.bat f ∈ a.owners
  · have hsub : ∀ g, Own.bat g ∈ a.owners.erase (.bat f) → Own.bat g ∈ a.owners := fun g hg => List.mem_of_mem_erase hg
    unfold LS.release
    refine ⟨h.nd.erase _, ?_, fun k => (List.mem_erase_of_ne (by simp)).trans (h.thrP k),
      fun g hg => h.batLt g (hsub g hg), fun g hg => h.batRD g (hsub g hg),
      fun g hg => h.batRet g (hsub g hg), fun g hg => h.batDrop g (hsub g hg), h.unapplied, h.headApplied,
      h.waitOk, h.qLt, h.holdLt, h.dropLt⟩
    dsimp only
    rw [if_pos (List.contains_iff_mem.mpr hm), Nat.add_right_comm, Nat.add_assoc, List.length_erase_succ hm]
    exact h.sum
  · exact (LS.release_of_not_mem hm).symm ▸ h

theorem linv_addDone {P : Nat} {a : LS} (h : LInv P a) (f : Nat) : LInv P (a.addDone f) := by
  unfold LS.addDone
  refine ⟨h.nd, h.sum, h.thrP, h.batLt, h.batRD, h.batRet, h.batDrop, h.unapplied, h.headApplied,
    fun k c g hk hc hg => h.waitOk k c g hk hc fun hm => hg ?_, h.qLt, h.holdLt, h.dropLt⟩
  dsimp only
  split
  · exact hm
  · exact List.mem_cons_of_mem _ hm

theorem mem_addDone (a : LS) (f : Nat) : f ∈ (a.addDone f).done := by
  unfold LS.addDone
  dsimp only
  split
  · exact List.contains_iff_mem.mp ‹_›
  · exact List.mem_cons_self

theorem linv_returned {P : Nat} {a : LS} (h : LInv P a) (f : Nat) (hf : Own.bat f ∈ a.owners → f ∉ a.dropped) :
    LInv P { a with returned := f :: a.returned } := by
  refine ⟨h.nd, h.sum, h.thrP, h.batLt, ?_, ?_, h.batDrop, h.unapplied, h.headApplied, h.waitOk,
    h.qLt, h.holdLt, h.dropLt⟩
  · intro g hg ⟨hr, hd⟩
    rcases List.mem_cons.mp hr with h1 | h1
    · subst h1; exact hf hg hd
    · exact h.batRD g hg ⟨h1, hd⟩
  · intro g hg hr
    exact h.batRet g hg (fun hm => hr (List.mem_cons_of_mem _ hm))

theorem linv_dropped {P : Nat} {a : LS} (h : LInv P a) (f : Nat) (hf : Own.bat f ∈ a.owners → f ∉ a.returned)
    (hlt : f < a.next) : LInv P { a with dropped := f :: a.dropped } := by
  refine ⟨h.nd, h.sum, h.thrP, h.batLt, ?_, h.batRet, ?_, h.unapplied, h.headApplied, h.waitOk,
    h.qLt, h.holdLt, ?_⟩
  · intro g hg ⟨hr, hd⟩
    rcases List.mem_cons.mp hd with h1 | h1
    · subst h1; exact hf hg hr
    · exact h.batRD g hg ⟨hr, h1⟩
  · intro g hg hd
    exact h.batDrop g hg (fun hm => hd (List.mem_cons_of_mem _ hm))
  · intro g hg
    rcases List.mem_cons.mp hg with h1 | h1
    · subst h1; exact hlt
    · exact h.dropLt g h1

theorem linv_dropBatch {P : Nat} {a : LS} (h : LInv P a) (f : Nat) (hlt : f < a.next) : LInv P (a.dropBatch f) := by
  unfold LS.dropBatch
  split
  · exact linv_release_bat h f
  · rename_i hc
    exact linv_dropped h f (fun _ hm => hc (List.contains_iff_mem.mpr hm)) hlt

/-- batch `g` needs nobody any more: its result has been sent, and its permit is free or waits only for
the call to return -/
abbrev LS.settled (a : LS) (g : Nat) : Prop := g ∈ a.done ∧ (Own.bat g ∈ a.owners → g ∈ a.dropped)

/-- a completed batch is settled once the publisher has dropped it: it is marked dropped, or (its call
having returned) it has given up its permit -/
theorem dropBatch_settled {P : Nat} {a : LS} (h : LInv P a) {f : Nat} (hf : f ∈ a.done) : (a.dropBatch f).settled f := by
  refine ⟨(LS.dropBatch_done ..).symm ▸ hf, ?_⟩
  unfold LS.dropBatch
  split
  · exact fun hm => absurd rfl (h.nd.mem_erase_iff.mp hm).1
  · exact fun _ => List.mem_cons_self

/-- **one move of thread `i`**, from class `cold` to `cnew`, together with any change of the queue, of the
permit tokens and of the allocation counter (completions, `returned` and `dropped` have lemmas of their
own above).  The hypotheses are what the move has to respect: tokens stay matched to the threads at
`permit`; a batch that comes to own a permit is new, the mover's own, and queued; no batch leaves the
queue except into the mover's hands; an unapplied entry keeps its worker and an applied head its pending
publisher; and what the mover lets go of (a batch it held, its own batch) is settled. -/
theorem linv_move {P : Nat} {a : LS} (h : LInv P a) {i : Nat} {cold cnew : Cls} (hi : a.th[i]? = some cold)
    {q' : List (Nat × Bool)} {ow : List Own} {perm n' : Nat}
    (hnd : ow.Nodup) (hsum : perm + ow.length = P)
    (htok : ∀ k, k ≠ i → (Own.thr k ∈ ow ↔ Own.thr k ∈ a.owners)) (hme : Own.thr i ∈ ow ↔ cnew = .permit)
    (hn : a.next ≤ n')
    (hbat : ∀ f, Own.bat f ∈ ow → Own.bat f ∈ a.owners ∨ a.next ≤ f ∧ cnew.own = some f ∧ inQ q' f)
    (hkeep : ∀ f, inQ a.q f → inQ q' f ∨ cnew.holdsB f = true)
    (hun : ∀ f, (f, false) ∈ q' → (f, false) ∈ a.q ∧ cold ≠ .work f ∨ cnew = .work f)
    (hhead : ∀ b rest, q' = (b, true) :: rest →
      cnew.pending = true ∨ cold.pending = false ∧ ∃ r, a.q = (b, true) :: r)
    (hqlt : ∀ p ∈ q', p.1 < n')
    (hhold : ∀ g, cnew.holdsB g = true → g < n')
    (hh : ∀ g, cold.holdsB g = true →
      cnew.holdsB g = true ∨ a.settled g)
    (hown : cnew.own = cold.own ∨ (cold.own = none ∧ ∀ f, cnew.own = some f → inQ q' f) ∨
      (cnew.own = none ∧ ∀ f, cold.own = some f → Own.bat f ∈ a.owners → f ∈ a.returned)) :
    LInv P { a with q := q', th := a.th.set i cnew, owners := ow, permits := perm, next := n' } := by
  -- a batch somebody still needs stays within a publisher's reach
  have keep : ∀ f, ¬a.settled f → reach a f →
      reach { a with q := q', th := a.th.set i cnew, owners := ow, permits := perm, next := n' } f := by
    intro f hns hr
    rcases hr with hq | hw
    · exact (hkeep f hq).imp id (wit_set_new hi)
    · exact .inr (wit_set_mono hi (fun hc => (hh f hc).resolve_right hns) hw)
  refine ⟨hnd, hsum, fun k => ?_, fun f hf => ?_, fun f hf ⟨hr, hd⟩ => ?_, fun f hf hr => ?_, fun f hf hd => ?_,
    fun f hf => ?_, fun b rest hq => ?_, fun k c f hk hc hf => ?_, hqlt, fun k g kk b hk => ?_,
    fun f hf => Nat.lt_of_lt_of_le (h.dropLt f hf) hn⟩
  · by_cases hk : k = i
    · subst hk
      rw [List.getElem?_set_self_of hi]
      exact hme.trans ⟨congrArg some, Option.some.inj⟩
    · rw [List.getElem?_set_ne (Ne.symm hk)]
      exact (htok k hk).trans (h.thrP k)
  · rcases hbat f hf with h1 | ⟨_, _, ap, hm⟩
    · exact Nat.lt_of_lt_of_le (h.batLt f h1) hn
    · exact hqlt _ hm
  · rcases hbat f hf with h1 | ⟨h1, _⟩
    · exact h.batRD f h1 ⟨hr, hd⟩
    · exact Nat.not_le_of_lt (h.dropLt f hd) h1
  · rcases hbat f hf with h1 | ⟨_, h1, _⟩
    · refine wit_set_mono hi (fun hc => ?_) (h.batRet f h1 hr)
      have hc' : cold.own = some f := eq_of_beq hc
      rcases hown with h2 | ⟨h2, _⟩ | ⟨_, h2⟩
      · exact beq_iff_eq.mpr (h2.trans hc')
      · cases h2.symm.trans hc'
      · exact absurd (h2 f hc' h1) hr
    · exact wit_set_new hi (beq_iff_eq.mpr h1)
  · rcases hbat f hf with h1 | ⟨_, _, h1⟩
    · exact keep f (fun hs => hd (hs.2 h1)) (h.batDrop f h1 hd)
    · exact .inl h1
  · rcases hun f hf with ⟨hm, hne⟩ | rfl
    · exact wit_set_mono hi (fun hc => absurd (eq_of_beq hc) hne) (h.unapplied f hm)
    · exact wit_set_new hi (beq_self_eq_true _)
  · rcases hhead b rest hq with hp | ⟨hp, r, hr⟩
    · exact wit_set_new hi hp
    · exact wit_set_mono hi (fun hc => absurd hc (by simp [hp])) (h.headApplied b r hr)
  · rcases List.getElem?_set_cases hk with ⟨_, rfl⟩ | ⟨_, hk⟩
    · rcases hown with h1 | ⟨_, h1⟩ | ⟨h1, _⟩
      · exact keep f (fun hs => hf hs.1) (h.waitOk i cold f hi (h1 ▸ hc) hf)
      · exact .inl (h1 f hc)
      · cases h1.symm.trans hc
    · exact keep f (fun hs => hf hs.1) (h.waitOk k c f hk hc hf)
  · rcases List.getElem?_set_cases hk with ⟨_, hc⟩ | ⟨_, hk⟩
    · exact hhold b (hc ▸ beq_self_eq_true b)
    · exact Nat.lt_of_lt_of_le (h.holdLt k g kk b hk) hn

/-- a move that leaves queue and counter alone, by a thread that is not becoming a holder: its own batch
stays the same or is given up after `returned` was recorded; what it held before is settled; it stops
being the pending publisher only when the head of the queue is not applied -/
theorem linv_reclass {P : Nat} {a : LS} (h : LInv P a) {i : Nat} {cold cnew : Cls} (hi : a.th[i]? = some cold)
    {ow : List Own} {perm : Nat} (hnd : ow.Nodup) (hsum : perm + ow.length = P)
    (htok : ∀ k, k ≠ i → (Own.thr k ∈ ow ↔ Own.thr k ∈ a.owners)) (hme : Own.thr i ∈ ow ↔ cnew = .permit)
    (hbat : ∀ f, Own.bat f ∈ ow → Own.bat f ∈ a.owners)
    (hh : ∀ g, cold.holdsB g = true → a.settled g)
    (hh2 : ∀ g, cnew.holdsB g = false)
    (hnw : ∀ g, cold ≠ .work g)
    (hpend : cnew.pending = true ∨ cold.pending = false ∨ ∀ b rest, a.q ≠ (b, true) :: rest)
    (hown : cnew.own = cold.own ∨
      (cnew.own = none ∧ ∀ f, cold.own = some f → Own.bat f ∈ a.owners → f ∈ a.returned)) :
    LInv P { a with permits := perm, owners := ow, th := a.th.set i cnew } :=
  linv_move h hi (hnd := hnd) (hsum := hsum) (htok := htok) (hme := hme) (hn := Nat.le_refl _)
    (hbat := fun f hf => .inl (hbat f hf)) (hkeep := fun _ => .inl) (hun := fun f hf => .inl ⟨hf, hnw f⟩)
    (hhead := fun b rest hq => hpend.imp_right fun hp => hp.elim (⟨·, rest, hq⟩) (absurd hq <| · b rest))
    (hqlt := h.qLt) (hhold := fun g hg => absurd hg (by simp [hh2 g])) (hh := fun g hg => .inr (hh g hg))
    (hown := hown.imp_right .inr)

/-- a thread that keeps clear of `permit` changes class and nothing else changes (the side conditions are
those of `linv_reclass`; the tokens stay as they are) -/
theorem linv_setC {P : Nat} {a : LS} (h : LInv P a) {i : Nat} {cold cnew : Cls}
    (hi : a.th[i]? = some cold) (hp1 : cold ≠ .permit) (hp2 : cnew ≠ .permit)
    (hh : ∀ g, cold.holdsB g = true → a.settled g)
    (hh2 : ∀ g, cnew.holdsB g = false)
    (hnw : ∀ g, cold ≠ .work g)
    (hpend : cnew.pending = true ∨ cold.pending = false ∨ ∀ b rest, a.q ≠ (b, true) :: rest)
    (hown : cnew.own = cold.own ∨
      (cnew.own = none ∧ ∀ f, cold.own = some f → Own.bat f ∈ a.owners → f ∈ a.returned)) :
    LInv P (a.setC i cnew) :=
  linv_reclass h hi (hnd := h.nd) (hsum := h.sum) (htok := fun _ _ => .rfl) (hme := thr_token_iff h.thrP hi hp1 hp2)
    (hbat := fun _ hf => hf) (hh := hh) (hh2 := hh2) (hnw := hnw) (hpend := hpend) (hown := hown)

theorem linv_acquire {P : Nat} {a : LS} (h : LInv P a) {i : Nat} (hi : a.th[i]? = some .begun)
    (hperm : 0 < a.permits) : LInv P (a.acquire i) := by
  have hnot : Own.thr i ∉ a.owners := fun hm => nomatch hi.symm.trans ((h.thrP i).mp hm)
  refine linv_reclass h hi (cnew := .permit) (ow := .thr i :: a.owners) (perm := a.permits - 1)
    (hnd := List.nodup_cons.mpr ⟨hnot, h.nd⟩) (hsum := ?_)
    (htok := fun k hk => List.mem_cons.trans (or_iff_right fun e => hk (Own.thr.inj e)))
    (hme := ⟨fun _ => rfl, fun _ => List.mem_cons_self⟩) (hbat := fun f hf => (List.mem_cons.mp hf).resolve_left nofun)
    (hh := nofun) (hh2 := fun _ => rfl) (hnw := nofun) (hpend := .inr (.inl rfl)) (hown := .inl rfl)
  rw [List.length_cons, ← Nat.add_assoc, Nat.add_right_comm, Nat.sub_add_cancel hperm]
  exact h.sum

theorem linv_finishNone {P : Nat} {a : LS} (h : LInv P a) {i : Nat} (hi : a.th[i]? = some .permit) :
    LInv P (a.finishNone i) := by
  have hm : Own.thr i ∈ a.owners := (h.thrP i).mpr hi
  refine linv_reclass h hi (cnew := .idle) (ow := a.owners.erase (.thr i)) (hnd := h.nd.erase _) (hsum := ?_)
    (htok := fun k hk => List.mem_erase_of_ne fun e => hk (Own.thr.inj e))
    (hme := ⟨fun hm' => absurd rfl (h.nd.mem_erase_iff.mp hm').1, nofun⟩) (hbat := fun f hf => List.mem_of_mem_erase hf)
    (hh := nofun) (hh2 := fun _ => rfl) (hnw := nofun) (hpend := .inr (.inl rfl)) (hown := .inl rfl)
  show (if a.owners.contains (.thr i) then a.permits + 1 else a.permits) + (a.owners.erase (.thr i)).length = P
  rw [if_pos (List.contains_iff_mem.mpr hm), Nat.add_right_comm, Nat.add_assoc, List.length_erase_succ hm]
  exact h.sum

theorem linv_begin {P : Nat} {a : LS} (h : LInv P a) {i : Nat} (hi : a.th[i]? = some .idle) :
    LInv P (a.setC i .begun) :=
  linv_setC h hi (hp1 := nofun) (hp2 := nofun) (hh := fun _ hg => nomatch hg) (hh2 := fun _ => rfl) (hnw := nofun)
    (hpend := .inr (.inl rfl)) (hown := .inl rfl)

theorem linv_toIdle {P : Nat} {a : LS} (h : LInv P a) {i : Nat} (hi : a.th[i]? = some .begun) :
    LInv P (a.setC i .idle) :=
  linv_setC h hi (hp1 := nofun) (hp2 := nofun) (hh := fun _ hg => nomatch hg) (hh2 := fun _ => rfl) (hnw := nofun)
    (hpend := .inr (.inl rfl)) (hown := .inl rfl)

/-- a thread that owns `f` and is done with it (not working, holding only what is settled) returns -/
theorem linv_finishSome {P : Nat} {a : LS} (h : LInv P a) {i f : Nat} {cold : Cls}
    (hi : a.th[i]? = some cold) (hown : cold.own = some f) (hp1 : cold ≠ .permit)
    (hh : ∀ g, cold.holdsB g = true → a.settled g)
    (hnw : ∀ g, cold ≠ .work g)
    (hpend : cold.pending = false ∨ ∀ b rest, a.q ≠ (b, true) :: rest) :
    LInv P (a.finishSome i f) := by
  unfold LS.finishSome
  split <;> rename_i hc
  · refine linv_setC (linv_release_bat h f) (cnew := .idle) hi (hp1 := hp1) (hp2 := nofun) (hh := fun g hg => ?_)
      (hh2 := fun _ => rfl) (hnw := hnw) (hpend := .inr hpend) (hown := .inr ⟨rfl, fun g hg hm => ?_⟩)
    · exact ⟨(hh g hg).1, fun hm => (hh g hg).2 (List.mem_of_mem_erase hm)⟩
    · cases hown.symm.trans hg
      exact absurd rfl (h.nd.mem_erase_iff.mp hm).1
  · refine linv_setC (linv_returned h f fun _ hm => hc (List.contains_iff_mem.mpr hm)) (cnew := .idle) hi
      (hp1 := hp1) (hp2 := nofun) (hh := hh) (hh2 := fun _ => rfl) (hnw := hnw) (hpend := .inr hpend)
      (hown := .inr ⟨rfl, fun g hg _ => ?_⟩)
    cases hown.symm.trans hg
    exact List.mem_cons_self

theorem inQ_markQ {q : List (Nat × Bool)} {f g : Nat} (h : inQ q g) :
    inQ (q.map (fun p => if p.1 == f then (p.1, true) else p)) g := by
  obtain ⟨ap, hm⟩ := h
  by_cases hgf : g = f
  · subst hgf
    exact ⟨true, List.mem_map.mpr ⟨(g, ap), hm, by simp⟩⟩
  · exact ⟨ap, List.mem_map.mpr ⟨(g, ap), hm, by simp [hgf]⟩⟩

theorem mem_markQ {q : List (Nat × Bool)} {f : Nat} {p : Nat × Bool}
    (h : p ∈ q.map (fun p => if p.1 == f then (p.1, true) else p)) :
    ∃ p0 ∈ q, p.1 = p0.1 ∧ (p.2 = false → p = p0 ∧ p.1 ≠ f) := by
  obtain ⟨p0, hp0, rfl⟩ := List.mem_map.mp h
  refine ⟨p0, hp0, ?_⟩
  by_cases hpf : p0.1 = f <;> simp [hpf]

theorem linv_markQ {P : Nat} {a : LS} (h : LInv P a) {i f : Nat} (hi : a.th[i]? = some (.work f)) (k : FK) :
    LInv P ((a.markQ f).setC i (.pend f k)) :=
  linv_move h hi (hnd := h.nd) (hsum := h.sum) (htok := fun _ _ => .rfl) (hme := thr_token_iff h.thrP hi nofun nofun)
    (hn := Nat.le_refl _) (hbat := fun _ => .inl) (hkeep := fun _ hg => .inl (inQ_markQ hg))
    (hun := fun _ hg => let ⟨_, h0, _, h2⟩ := mem_markQ hg
      .inl ⟨(h2 rfl).1 ▸ h0, fun e => (h2 rfl).2 (Cls.work.inj e).symm⟩)
    (hhead := fun _ _ _ => .inl rfl) (hqlt := fun _ hp => let ⟨p0, h0, e, _⟩ := mem_markQ hp; e ▸ h.qLt p0 h0)
    (hhold := fun _ hg => nomatch hg) (hh := fun _ hg => nomatch hg) (hown := .inl rfl)

/-- enqueue, WAL written: the thread's token passes to the new batch `a.next`, which joins the queue with
the thread as its worker -/
theorem linv_enqueue_ok {P : Nat} {a : LS} (h : LInv P a) {i c : Nat} (hi : a.th[i]? = some .permit) (hc : 1 ≤ c) :
    LInv P (a.enqueue i c false) := by
  have hm : Own.thr i ∈ a.owners := (h.thrP i).mpr hi
  have hnew : inQ (a.q ++ [(a.next, false)]) a.next := ⟨false, List.mem_append_right _ List.mem_cons_self⟩
  refine linv_move h hi (cnew := .work a.next) (q' := a.q ++ [(a.next, false)])
    (ow := .bat a.next :: a.owners.erase (.thr i)) (perm := a.permits) (n' := a.next + c)
    (hnd := List.nodup_cons.mpr ⟨fun hb => Nat.lt_irrefl _ (h.batLt _ (List.mem_of_mem_erase hb)), h.nd.erase _⟩)
    (hsum := ?_)
    (htok := fun k hk =>
      List.mem_cons.trans ((or_iff_right nofun).trans (List.mem_erase_of_ne fun e => hk (Own.thr.inj e))))
    (hme := ⟨fun hm' => absurd rfl (h.nd.mem_erase_iff.mp ((List.mem_cons.mp hm').resolve_left nofun)).1, nofun⟩)
    (hn := Nat.le_add_right ..) (hbat := fun g hg => ?_)
    (hkeep := fun g ⟨ap, hg⟩ => .inl ⟨ap, List.mem_append_left _ hg⟩) (hun := fun g hg => ?_)
    (hhead := fun b rest hq => .inr ⟨rfl, ?_⟩) (hqlt := fun p hp => ?_) (hhold := fun _ hg => nomatch hg)
    (hh := fun _ hg => nomatch hg) (hown := .inr (.inl ⟨rfl, fun g hg => Option.some.inj hg ▸ hnew⟩))
  · rw [List.length_cons, List.length_erase_succ hm]
    exact h.sum
  · rcases List.mem_cons.mp hg with e | h1
    · cases e; exact .inr ⟨Nat.le_refl _, rfl, hnew⟩
    · exact .inl (List.mem_of_mem_erase h1)
  · rcases List.mem_append.mp hg with h1 | h1
    · exact .inl ⟨h1, nofun⟩
    · cases List.mem_singleton.mp h1; exact .inr rfl
  · cases hqa : a.q with
    | nil => rw [hqa] at hq; cases hq
    | cons x xs => rw [hqa] at hq; exact ⟨xs, by rw [(List.cons.inj hq).1]⟩
  · rcases List.mem_append.mp hp with h1 | h1
    · exact Nat.lt_add_right c (h.qLt p h1)
    · cases List.mem_singleton.mp h1; exact Nat.lt_add_of_pos_right hc

theorem linv_mark {P : Nat} {a : LS} (h : LInv P a) {i f : Nat} (hi : a.th[i]? = some (.work f)) (k : FK) :
    LInv P (a.mark i f k) := by
  unfold LS.mark
  split
  · exact linv_markQ h hi k
  · exact linv_markQ (linv_addDone h f) hi k

theorem LS.mark_setC (a : LS) (i f : Nat) (c : Cls) (k : FK) : (a.setC i c).mark i f k = a.mark i f k := by
  unfold LS.mark
  split
  · exact LS.setC_setC (a.markQ f) i c _
  · exact LS.setC_setC ((a.addDone f).markQ f) i c _

theorem linv_enqueue {P : Nat} {a : LS} (h : LInv P a) {i c : Nat} (hi : a.th[i]? = some .permit) (hc : 1 ≤ c)
    (wal : Bool) : LInv P (a.enqueue i c wal) := by
  have h1 := linv_enqueue_ok h hi hc
  cases wal with
  | false => exact h1
  | true =>
    have h2 : LInv P ((LS.setC _ i (.work a.next)).mark i a.next .wal) :=
      linv_mark h1 (List.getElem?_set_self_of hi) .wal
    rwa [LS.mark_setC] at h2

/-- the top of the publish loop, for a thread that is the pending publisher (it just marked its batch,
or it just published one: what it held is settled) -/
theorem linv_pubTop {P : Nat} {a : LS} (h : LInv P a) {i f : Nat} {cold : Cls}
    (hi : a.th[i]? = some cold) (hown : cold.own = some f) (hpc : cold.pending = true)
    (hh : ∀ g, cold.holdsB g = true → a.settled g) (k : FK) :
    LInv P (a.pubTop i f k) := by
  have hp1 : cold ≠ .permit := fun hc => nomatch hc ▸ hpc
  have hnw : ∀ g, cold ≠ .work g := fun g hc => nomatch hc ▸ hpc
  unfold LS.pubTop
  split
  · rename_i b rest hq
    have hsub : ∀ p ∈ rest, p ∈ a.q := fun p hp => hq ▸ List.mem_cons_of_mem _ hp
    refine linv_move h hi (cnew := .hold f k b) (hnd := h.nd) (hsum := h.sum) (htok := fun _ _ => .rfl)
      (hme := thr_token_iff h.thrP hi hp1 nofun) (hn := Nat.le_refl _) (hbat := fun _ => .inl)
      (hkeep := fun g ⟨ap, hm⟩ => ?_) (hun := fun g hg => .inl ⟨hsub _ hg, hnw g⟩) (hhead := fun _ _ _ => .inl rfl)
      (hqlt := fun p hp => h.qLt p (hsub p hp)) (hhold := fun g hg => ?_) (hh := fun g hg => .inr (hh g hg))
      (hown := .inl hown.symm)
    · rcases List.mem_cons.mp (hq ▸ hm) with e | hm
      · cases e; exact .inr (beq_self_eq_true b)
      · exact .inl ⟨ap, hm⟩
    · cases eq_of_beq hg
      exact h.qLt (b, true) (hq ▸ List.mem_cons_self)
  · rename_i hq
    cases k with
    | wal => exact linv_finishSome h hi hown hp1 hh hnw (hpend := .inr hq)
    | none | apply =>
      exact linv_setC h hi (hp1 := hp1) (hp2 := nofun) (hh := hh) (hh2 := fun _ => rfl) (hnw := hnw)
        (hpend := .inr (.inr hq)) (hown := .inl hown.symm)

theorem linv_publish {P : Nat} {a : LS} (h : LInv P a) {i f b : Nat} {k : FK}
    (hi : a.th[i]? = some (.hold f k b)) : LInv P (((a.addDone b).dropBatch b).pubTop i f k) := by
  have h1 := linv_addDone h b
  have h2 := linv_dropBatch h1 b (h.holdLt i f k b hi)
  refine linv_pubTop h2 (cold := .hold f k b) (by rw [LS.dropBatch_th]; exact hi) (hown := rfl) (hpc := rfl)
    (hh := fun g hg => ?_) k
  cases eq_of_beq hg
  exact dropBatch_settled h1 (mem_addDone a b)

theorem LStep.linv {P : Nat} {a a' : LS} (hs : LStep a a') (h : LInv P a) : LInv P a' := by
  cases hs with
  | stay => exact h
  | toIdle i hi => exact linv_toIdle h hi
  | acquire i hi hp => exact linv_acquire h hi hp
  | finishNone i hi => exact linv_finishNone h hi
  | enqueue i c wal hi hc => exact linv_enqueue h hi hc wal
  | mark i f k hi => exact linv_mark h hi k
  | pubTop i f k hi => exact linv_pubTop h hi (hown := rfl) (hpc := rfl) (hh := fun _ hg => nomatch hg) k
  | publish i f k b hi => exact linv_publish h hi
  | finishSome i f hi =>
    rcases hi with h1 | ⟨h1, _⟩ <;>
      exact linv_finishSome h h1 (hown := rfl) (hp1 := nofun) (hh := fun _ hg => nomatch hg) (hnw := nofun)
        (hpend := .inl rfl)

theorem linv_idle (a : LS) (hq : a.q = []) (ho : a.owners = []) (hd : a.dropped = [])
    (hth : ∀ (k : Nat) (c : Cls), a.th[k]? = some c → c = .idle) : LInv a.permits a := by
  have no := List.eq_nil_iff_forall_not_mem.mp ho
  have nq := List.eq_nil_iff_forall_not_mem.mp hq
  exact ⟨ho ▸ .nil, (by rw [ho]; rfl), fun k => ⟨fun hm => absurd hm (no _), fun hk => nomatch hth k _ hk⟩,
    fun f hf => absurd hf (no _), fun f hf => absurd hf (no _), fun f hf => absurd hf (no _),
    fun f hf => absurd hf (no _), fun f hf => absurd hf (nq _),
    fun b rest hqq => absurd (hqq ▸ List.mem_cons_self) (nq _),
    fun k c f hk hc => (by cases hth k c hk; cases hc), fun p hp => absurd hp (nq _),
    fun k g kk b hk => (nomatch hth k _ hk), fun f hf => absurd hf (List.eq_nil_iff_forall_not_mem.mp hd _)⟩

theorem linv_step {P : Nat} {s : PState} (h : LInv P (proj s)) (hr : ReqInv s) (i : Nat) :
    LInv P (proj (s.stepThread i)) :=
  (sim hr i).linv h
