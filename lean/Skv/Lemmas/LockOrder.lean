import Skv.Model.LockOrder

theorem exists_max {α : Type} {S : List α} (f : α → Nat) (h : S ≠ []) :
    ∃ x ∈ S, ∀ y ∈ S, f y ≤ f x := by
  obtain ⟨m, hm⟩ := Option.isSome_iff_exists.mp (List.isSome_max?_of_ne_nil (l := S.map f) (by simpa using h))
  obtain ⟨hmem, hle⟩ := List.max?_eq_some_iff.mp hm
  obtain ⟨x, hx, rfl⟩ := List.mem_map.mp hmem
  exact ⟨x, hx, fun y hy => hle _ (List.mem_map_of_mem hy)⟩

theorem disciplinedFrom_at {p : List LAct} {acc : List LReq} (hd : disciplinedFrom p acc = true)
    {n : Nat} {r : LReq} {g : Bool} (hn : p[n]? = some (.acq r g)) :
    ∀ h ∈ heldOf (p.take n) acc, h.lock < r.lock := by
  induction p generalizing acc n with
  | nil => simp at hn
  | cons a rest ih =>
    cases n with
    | zero =>
      cases (Option.some.inj hn : a = .acq r g)
      exact fun h hh => of_decide_eq_true (List.all_eq_true.mp (Bool.and_eq_true_iff.mp hd).1 h hh)
    | succ n =>
      cases a with
      | acq r0 g0 => exact ih (Bool.and_eq_true_iff.mp hd).2 hn
      | rel l => exact ih hd hn

theorem LThread.held_lt_next (t : LThread) (hd : disciplined t.prog = true) {h r : LReq}
    (hh : h ∈ t.held) (hn : t.next = some r) : h.lock < r.lock := by
  unfold LThread.held at hh
  unfold LThread.next at hn
  split at hh
  · cases hh
  · split at hn
    next r0 g0 hp => cases hn; exact disciplinedFrom_at hd hp h hh
    next => cases hn

/-- the id of the lock thread `i` is about to ask for (0 when its next action is no acquisition) -/
def wanted (s : LSys) (i : Nat) : Nat := ((s[i]?.bind LThread.next).map LReq.lock).getD 0

theorem wanted_eq {s : LSys} {i : Nat} {t : LThread} {r : LReq} (ht : s[i]? = some t) (hn : t.next = some r) :
    wanted s i = r.lock := by
  simp [wanted, ht, hn]

theorem blocked_has_holder {s : LSys} {i : Nat} (hb : blocked s i = true) :
    ∃ (t : LThread) (r : LReq), s[i]? = some t ∧ t.next = some r ∧
      ∃ j, j ≠ i ∧ ∃ (u : LThread) (h : LReq), s[j]? = some u ∧ h ∈ u.held ∧ h.lock = r.lock := by
  unfold blocked at hb
  split at hb
  · cases hb
  next t ht =>
    split at hb
    next r hn =>
      refine ⟨t, r, ht, hn, ?_⟩
      obtain ⟨j, -, hbad⟩ := List.all_eq_false.mp (show canGrant s i r = false by simpa using hb)
      simp only [Bool.or_eq_true, beq_iff_eq, not_or] at hbad
      obtain ⟨hji, hbad⟩ := hbad
      cases hu : s[j]? with
      | none => simp [hu] at hbad
      | some u =>
        simp only [hu, Option.map_some, Option.getD_some, Bool.not_eq_true] at hbad
        obtain ⟨h, hh, hc⟩ := List.all_eq_false.mp hbad
        refine ⟨j, hji, u, h, hu, hh, ?_⟩
        simp only [compatible, Bool.or_eq_true, bne_iff_ne, ne_eq, Bool.and_eq_true, beq_iff_eq, not_or,
          Decidable.not_not] at hc
        exact hc.1.symm
    · cases hb
