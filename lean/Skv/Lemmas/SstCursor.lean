import Skv.Lemmas.SstSeek
/-! the bounded table cursor lands where the flat-list specification says -/

def seqBounded (es : List Ent) (m : Nat) : Prop := ∀ e ∈ es, e.k.seq ≤ m

/-! `seek_to_first` / `seek_to_last` turn a bound on user keys into a seek target: `(k, maxSeq)` sorts before
every entry of `k`, `(k, 0)` after every entry of `k` except `(k, 0)` itself. -/

theorem ikLt_maxSeq {e : IKey} {k : List Nat} {m : Nat} (h : e.seq ≤ m) : ikLt e ⟨k, m⟩ = decide (e.uk < k) := by
  rw [Bool.eq_iff_iff, ikLt_iff, decide_eq_true_iff]
  exact ⟨fun h' => h'.elim id fun h' => absurd h'.2 (Nat.not_lt.mpr h), .inl⟩

theorem count_uk_lt {es : List Ent} {m : Nat} (hm : seqBounded es m) (k : List Nat) :
    firstGE es ⟨k, m⟩ = (es.takeWhile (fun e => decide (e.k.uk < k))).length :=
  congrArg List.length (takeWhile_congr fun e he => ikLt_maxSeq (hm e he))

-- the conclusion is the `takeWhile` predicate of `count_uk_le_*`, in the form `length_takeWhile_eq` takes
theorem uk_le_of_mem_take_firstGE {es : List Ent} {k : List Nat} {s : Nat} {x : Ent}
    (hx : x ∈ es.take (firstGE es ⟨k, s⟩)) : (!decide (k < x.k.uk)) = true := by
  have := uk_le_of_ikLe (ikLe_of_lt (of_mem_take_length_takeWhile (fun e : Ent => ikLt e.k ⟨k, s⟩) hx))
  rw [Bool.not_eq_true', decide_eq_false_iff_not]
  exact List.not_lt.mpr this

theorem count_uk_le_of_none {es : List Ent} {k : List Nat} (hp : es[firstGE es ⟨k, 0⟩]? = none) :
    (es.takeWhile (fun e => !decide (k < e.k.uk))).length = firstGE es ⟨k, 0⟩ :=
  length_takeWhile_eq (fun _ hx => uk_le_of_mem_take_firstGE hx) (fun _ he => nomatch hp.symm.trans he)
    (firstGE_le _ _)

theorem count_uk_le_of_ne {es : List Ent} {k : List Nat} {e : Ent} (hp : es[firstGE es ⟨k, 0⟩]? = some e)
    (hk : e.k.uk ≠ k) : (es.takeWhile (fun e => !decide (k < e.k.uk))).length = firstGE es ⟨k, 0⟩ := by
  refine length_takeWhile_eq (fun _ hx => uk_le_of_mem_take_firstGE hx) (fun e' he' => ?_) (firstGE_le _ _)
  cases hp.symm.trans he'
  rw [Bool.not_eq_false', decide_eq_true (uk_lt_of_not_lt (firstGE_at hp) hk)]

theorem count_uk_le_of_eq {es : List Ent} (hs : sortedEnts es = true) {k : List Nat} {e : Ent}
    (he : es[firstGE es ⟨k, 0⟩]? = some e) (hk : e.k.uk = k) :
    (es.takeWhile (fun e => !decide (k < e.k.uk))).length = firstGE es ⟨k, 0⟩ + 1 := by
  obtain ⟨hP, rfl⟩ := List.getElem?_eq_some_iff.mp he
  refine length_takeWhile_eq (fun x hx => ?_) (fun e' he' => ?_) hP
  · rw [List.take_add_one, he, List.mem_append] at hx
    rcases hx with hx | hx
    · exact uk_le_of_mem_take_firstGE hx
    · rw [List.mem_singleton.mp hx, Bool.not_eq_true', decide_eq_false_iff_not, hk]
      exact List.lt_irrefl _
  · -- the entry is `(k, 0)`: its successor in the strict order has a larger user key
    obtain ⟨hP', rfl⟩ := List.getElem?_eq_some_iff.mp he'
    have hlt := List.pairwise_iff_getElem.mp (sortedEnts_iff.mp hs) _ _ hP hP' (Nat.lt_succ_self _)
    have hseq : ¬ 0 < es[firstGE es ⟨k, 0⟩].k.seq := fun h =>
      Bool.eq_false_iff.mp (firstGE_at he) (ikLt_iff.mpr (.inr ⟨hk, h⟩))
    have := (ikLt_iff.mp hlt).resolve_right fun h => hseq (Nat.lt_of_le_of_lt (Nat.zero_le _) h.2)
    rw [hk] at this
    rw [Bool.not_eq_false', decide_eq_true this]

theorem mkPos_eq (c : TblCtx) (p : Nat) : c.mkPos p = if p < c.flat.length then some p else none := rfl

theorem checkUpper_mkPos (c : TblCtx) (p : Nat) : c.checkUpper (c.mkPos p) = landUpper c.flat c.hi p := by
  unfold TblCtx.checkUpper TblCtx.mkPos landUpper TblCtx.at?
  by_cases h : p < c.flat.length
  · simp [h]
  · simp [h]

theorem checkLower_eq (c : TblCtx) (p : Option Nat) : c.checkLower p = landLower c.flat c.lo p := by
  cases p <;> rfl

theorem tblSeek_flat {c : TblCtx} (hw : layoutWF c.L = true) (t : IKey) : tblSeek c.L t = firstGE c.flat t :=
  tblSeek_eq hw t

theorem seekFirstPos_eq {c : TblCtx} (hw : layoutWF c.L = true) (hm : seqBounded c.flat c.maxSeq) :
    c.seekFirstPos = (c.flat.takeWhile (fun e => !satLower c.lo e.k.uk)).length := by
  have hs : sortedEnts c.flat = true := sortedEnts_flatOf (layoutWF_blocks hw)
  unfold TblCtx.seekFirstPos
  cases c.lo with
  | unb => exact (length_takeWhile_eq (fun _ hx => absurd hx List.not_mem_nil) (fun _ _ => rfl) (Nat.zero_le _)).symm
  | incl k =>
    simp only [satLower, Bool.not_not, tblSeek_flat hw]
    exact count_uk_lt hm k
  | excl k =>
    simp only [satLower, TblCtx.at?, tblSeek_flat hw]
    cases hp : c.flat[firstGE c.flat ⟨k, 0⟩]? with
    | none => exact (count_uk_le_of_none hp).symm
    | some e =>
      by_cases hk : e.k.uk = k
      · exact (if_pos hk).trans (count_uk_le_of_eq hs hp hk).symm
      · exact (if_neg hk).trans (count_uk_le_of_ne hp hk).symm

theorem seekFirst_eq {c : TblCtx} (hw : layoutWF c.L = true) (hm : seqBounded c.flat c.maxSeq) :
    c.seekFirst = specSeekFirst c.flat c.lo c.hi := by
  rw [TblCtx.seekFirst, checkUpper_mkPos, seekFirstPos_eq hw hm]
  rfl

theorem lastPosOf_succ (n : Nat) : lastPosOf (n + 1) = some n := rfl

theorem lastPosOf_lt {n i : Nat} (h : lastPosOf n = some i) : i < n := by
  cases n with
  | zero => cases h
  | succ n => cases h; exact Nat.lt_succ_self n

theorem seekLastPos_eq {c : TblCtx} (hw : layoutWF c.L = true) (hm : seqBounded c.flat c.maxSeq) :
    c.seekLastPos = lastPosOf (c.flat.takeWhile (fun e => satUpper c.hi e.k.uk)).length := by
  have hs : sortedEnts c.flat = true := sortedEnts_flatOf (layoutWF_blocks hw)
  unfold TblCtx.seekLastPos
  cases c.hi with
  | unb => exact congrArg lastPosOf (length_takeWhile_eq_length.mpr fun _ _ => rfl).symm
  | incl k =>
    simp only [satUpper, TblCtx.at?, tblSeek_flat hw]
    cases hp : c.flat[firstGE c.flat ⟨k, 0⟩]? with
    | none =>
      rw [count_uk_le_of_none hp, Nat.le_antisymm (firstGE_le _ _) (List.getElem?_eq_none_iff.mp hp)]
    | some e =>
      by_cases hk : e.k.uk = k
      · rw [count_uk_le_of_eq hs hp hk, lastPosOf_succ]
        exact if_neg (hk ▸ List.lt_irrefl _)
      · rw [count_uk_le_of_ne hp hk]
        exact if_pos (uk_lt_of_not_lt (firstGE_at hp) hk)
  | excl k =>
    simp only [satUpper, TblCtx.at?, tblSeek_flat hw, count_uk_lt hm k]
    cases hp : c.flat[(c.flat.takeWhile (fun e => decide (e.k.uk < k))).length]? with
    | some e =>
      -- the seek landed on `e`, whose user key is not below `k`: the model steps back once
      have := not_of_getElem?_length_takeWhile _ hp
      simp only [hp, this, Bool.not_false, if_true]
    | none =>
      -- the seek ran off the end: the model takes the last entry, if any, and keeps it as it is below `k`
      have hn := Nat.le_antisymm (length_takeWhile_le _) (List.getElem?_eq_none_iff.mp hp)
      rw [hn]
      cases hq : lastPosOf c.flat.length with
      | none => rfl
      | some q =>
        have hlt := lastPosOf_lt hq
        have := length_takeWhile_eq_length.mp hn _ (List.getElem_mem hlt)
        simp only [List.getElem?_eq_getElem hlt, this, Bool.not_true, Bool.false_eq_true, if_false]

theorem seekLast_eq {c : TblCtx} (hw : layoutWF c.L = true) (hm : seqBounded c.flat c.maxSeq) :
    c.seekLast = specSeekLast c.flat c.lo c.hi := by
  rw [TblCtx.seekLast, checkLower_eq, seekLastPos_eq hw hm]
  rfl

theorem seek_eq {c : TblCtx} (hw : layoutWF c.L = true) (t : IKey) :
    c.seek t = specSeek c.flat c.hi t := by
  rw [TblCtx.seek, checkUpper_mkPos, tblSeek_flat hw]
  rfl

theorem next_eq {c : TblCtx} (hw : layoutWF c.L = true) (hm : seqBounded c.flat c.maxSeq) (s : TCur) :
    c.next s = specNext c.flat c.lo c.hi s := by
  unfold TblCtx.next specNext
  cases hp : s.pos with
  | none => simp only; rw [seekFirst_eq hw hm]
  | some p =>
    simp only [TblCtx.mkPos, TblCtx.at?]
    by_cases h : p + 1 < c.flat.length
    · simp only [h, if_true]
    · simp only [h, if_false]
      rw [List.getElem?_eq_none (Nat.le_of_not_lt h)]

theorem prev_eq {c : TblCtx} (hw : layoutWF c.L = true) (hm : seqBounded c.flat c.maxSeq) (s : TCur) :
    c.prev s = specPrev c.flat c.lo c.hi s := by
  unfold TblCtx.prev specPrev
  cases hp : s.pos with
  | none => simp only; rw [seekLast_eq hw hm]
  | some p => rfl

inductive COp
  | first | last | next | prev | seek (t : IKey)
  deriving Repr

def TblCtx.apply (c : TblCtx) (s : TCur) : COp → TCur
  | .first => c.seekFirst | .last => c.seekLast | .next => c.next s | .prev => c.prev s | .seek t => c.seek t

def specApply (es : List Ent) (lo hi : Bnd) (s : TCur) : COp → TCur
  | .first => specSeekFirst es lo hi | .last => specSeekLast es lo hi
  | .next => specNext es lo hi s | .prev => specPrev es lo hi s | .seek t => specSeek es hi t
