import Skv.Model.Stall

/-- what a committer in a given phase may rely on: its generation is not in the future; one that decided
to wait has been signalled since, or a signal is owed, or what it saw (stalled, not shutting down) still
holds.  `parked` occurs in the late-registration variant only. -/
def WPhase.ok (s : SState) : WPhase → Prop
  | .registered g => g ≤ s.gen
  | .decided g => g ≤ s.gen ∧ (g < s.gen ∨ 0 < s.owed ∨ (s.stalled = true ∧ s.shutdown = false))
  | .parked _ => False
  | _ => True

def SInv (s : SState) : Prop := ∀ i, (s.phase i).ok s

theorem sinv_init : SInv {} := fun _ => trivial

theorem SInv.ok {s : SState} (h : SInv s) {i : Nat} {p : WPhase} (hp : s.phase i = p) : p.ok s := hp ▸ h i

@[simp] theorem SState.setPhase_shutdown (s : SState) (i : Nat) (p : WPhase) : (s.setPhase i p).shutdown = s.shutdown := rfl
@[simp] theorem SState.setPhase_stalled (s : SState) (i : Nat) (p : WPhase) : (s.setPhase i p).stalled = s.stalled := rfl
@[simp] theorem SState.setPhase_gen (s : SState) (i : Nat) (p : WPhase) : (s.setPhase i p).gen = s.gen := rfl
@[simp] theorem SState.setPhase_owed (s : SState) (i : Nat) (p : WPhase) : (s.setPhase i p).owed = s.owed := rfl
@[simp] theorem SState.setPhase_phase (s : SState) (i j : Nat) (p : WPhase) :
    (s.setPhase i p).phase j = if j = i then p else s.phase j := rfl

theorem sinv_setPhase {s : SState} (h : SInv s) (i : Nat) {p : WPhase} (hp : p.ok s) : SInv (s.setPhase i p) := by
  intro j
  show WPhase.ok s (if j = i then p else s.phase j)
  split
  · exact hp
  · exact h j

theorem sinv_env {s s' : SState} (h : SInv s) (hph : s'.phase = s.phase) (hg : s.gen ≤ s'.gen)
    (hw : ∀ g, g ≤ s.gen → g < s.gen ∨ 0 < s.owed ∨ (s.stalled = true ∧ s.shutdown = false) →
      g < s'.gen ∨ 0 < s'.owed ∨ (s'.stalled = true ∧ s'.shutdown = false)) : SInv s' := by
  intro i
  rw [hph]
  cases hp : s.phase i with
  | registered g => exact Nat.le_trans (h.ok hp) hg
  | decided g => exact ⟨Nat.le_trans (h.ok hp).1 hg, hw g (h.ok hp).1 (h.ok hp).2⟩
  | parked g => exact h.ok hp
  | idle => trivial
  | returned ok => trivial

theorem sinv_step {s : SState} (h : SInv s) (op : SOp) : SInv (s.step op) := by
  cases op with
  | register i =>
    dsimp only [SState.step]
    split
    · exact sinv_setPhase h i (Nat.le_refl s.gen)
    · exact h
  | read i =>
    dsimp only [SState.step]
    split
    next g hp =>
      have hg : g ≤ s.gen := h.ok hp
      split
      · exact sinv_setPhase h i trivial
      next hsd =>
        split
        · exact sinv_setPhase h i trivial
        next hst => exact sinv_setPhase h i ⟨hg, .inr (.inr ⟨by simpa using hst, by simpa using hsd⟩)⟩
    next => exact h
  | await i =>
    dsimp only [SState.step]
    split
    · split
      · exact sinv_setPhase h i trivial
      · exact h
    · exact h
  | stall => exact sinv_env h rfl (Nat.le_refl _) fun g _ hw => hw.imp_right (·.imp_right fun h => ⟨rfl, h.2⟩)
  | clear => exact sinv_env h rfl (Nat.le_refl _) fun g _ _ => .inr (.inl (Nat.succ_pos _))
  | signal => exact sinv_env h rfl (Nat.le_succ _) fun g hg _ => .inl (Nat.lt_succ_of_le hg)
  | shutdown => exact sinv_env h rfl (Nat.le_refl _) fun g _ _ => .inr (.inl (Nat.succ_pos _))

theorem sinv_run {s : SState} (h : SInv s) (ops : List SOp) : SInv (s.run ops) :=
  List.foldlRecOn ops _ h fun _ hs op _ => sinv_step hs op

theorem SState.step_await {s : SState} {i g : Nat} (hp : s.phase i = .decided g) (hlt : g < s.gen) :
    s.step (.await i) = s.setPhase i .idle := by
  simp only [SState.step, hp, if_pos hlt]
