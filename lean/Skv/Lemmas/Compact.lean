import Skv.Spec.CompactSpec
/-!
A snapshot that sees a version and not its newer neighbour gives the two different boundaries, so the version
is neither superseded nor stale (`compactGo_find`); when the whole key is dropped no observer saw anything.
-/

def SortedDesc (vs : List Ver) : Prop := vs.Pairwise (fun a b => b.seq < a.seq)
def SortedAsc (l : List Nat) : Prop := l.Pairwise (fun a b => a < b)

theorem compactGo_sublist {c : CCfg} {snaps : List Nat} {ldb hr : Bool} :
    ∀ {vs : List Ver} {il : Bool} {nv : Option Vis}, (compactGo c snaps ldb hr il nv vs).Sublist vs
  | [], _, _ => .slnil
  | v :: vs, _, _ => by
    simp only [compactGo]
    split
    · exact compactGo_sublist.cons_cons v
    · exact compactGo_sublist.cons v

theorem find?_pairwise {α : Type} {R : α → α → Prop} {p : α → Bool} {l : List α} (hl : l.Pairwise R) {a : α}
    (h : l.find? p = some a) {b : α} (hb : b ∈ l) (hp : p b = true) : a = b ∨ R a b := by
  obtain ⟨-, as, bs, rfl, has⟩ := List.find?_eq_some_iff_append.mp h
  rcases List.mem_append.mp hb with hb | hb
  · exact absurd hp (by simpa using has b hb)
  · exact (List.mem_cons.mp hb).imp Eq.symm ((List.pairwise_cons.mp (List.pairwise_append.mp hl).2.1).1 b)

theorem earliest_bounded_le {snaps : List Nat} (hs : SortedAsc snaps) {x s : Nat} (hmem : s ∈ snaps) (hx : x ≤ s) :
    ∃ s', earliest snaps x = .bounded s' ∧ s' ≤ s := by
  obtain ⟨s', hf⟩ := Option.isSome_iff_exists.mp
    (List.find?_isSome.mpr ⟨s, hmem, decide_eq_true hx⟩ : (snaps.find? (fun y => decide (x ≤ y))).isSome)
  refine ⟨s', ?_, (find?_pairwise hs hf hmem (decide_eq_true hx)).elim Nat.le_of_eq Nat.le_of_lt⟩
  cases snaps with
  | nil => cases hmem
  | cons a r => simp only [earliest, hf]

theorem earliest_ge {snaps : List Nat} {x b : Nat} (h : earliest snaps x = .bounded b) : x ≤ b := by
  unfold earliest at h
  cases snaps with
  | nil => cases h
  | cons a r =>
    dsimp only at h
    cases hf : List.find? (fun s => decide (x ≤ s)) (a :: r) with
    | none => rw [hf] at h; cases h
    | some s' =>
      rw [hf] at h
      have := List.find?_some hf
      injection h with h; subst h
      simpa using this

theorem keepVer_out {c : CCfg} {snaps : List Nat} {hr il : Bool} {nv : Option Vis} {v : Ver}
    (hsup : superseded c il nv (earliest snaps v.seq) = false)
    (h : il = true ∨ ∃ b, earliest snaps v.seq = .bounded b) :
    (keepVer c snaps false hr il nv v).1 = true := by
  unfold keepVer
  simp only [hsup]
  rcases h with rfl | ⟨b, hb⟩
  · cases v.kind.isHard <;> cases v.kind == VKind.replace <;> simp
  · simp [hb]

/-- the newest version of a key is output unless the whole key is dropped at the bottom -/
theorem keepVer_latest (c : CCfg) (snaps : List Nat) (hr : Bool) (v : Ver) :
    (keepVer c snaps false hr true none v).1 = true := keepVer_out rfl (.inl rfl)

/-- a snapshot between two versions gives them different boundaries -/
theorem sameBoundary_earliest {snaps : List Nat} (hs : SortedAsc snaps) {x p s : Nat} (hmem : s ∈ snaps)
    (hx : x ≤ s) (hp : s < p) : sameBoundary (earliest snaps p) (earliest snaps x) = false := by
  obtain ⟨s', he, h2⟩ := earliest_bounded_le hs hmem hx
  rw [he]
  cases hep : earliest snaps p with
  | bounded b =>
    have := earliest_ge hep
    simp only [sameBoundary, beq_eq_false_iff_ne, ne_eq]
    omega
  | noSnaps => rfl
  | newer => rfl

/-- a version visible to snapshot `s` whose newer neighbour (sequence number `prev`) is not: it is not
superseded, is required, and is output (no wholesale drop) -/
theorem keepVer_visible {c : CCfg} {snaps : List Nat} (hs : SortedAsc snaps) {hr il : Bool} {prev : Option Nat}
    {v : Ver} {s : Nat} (hmem : s ∈ snaps) (hv : v.seq ≤ s) (hprev : ∀ p ∈ prev, s < p) :
    (keepVer c snaps false hr il (prev.map (earliest snaps)) v).1 = true := by
  obtain ⟨s', he, -⟩ := earliest_bounded_le hs hmem hv
  refine keepVer_out ?_ (.inr ⟨s', he⟩)
  cases prev with
  | none => rfl
  | some p => simp [superseded, sameBoundary_earliest hs hmem hv (hprev p rfl)]

theorem keepVer_snd (c : CCfg) (snaps : List Nat) (ldb hr il : Bool) (nv : Option Vis) (v : Ver) :
    (keepVer c snaps ldb hr il nv v).2 = earliest snaps v.seq := rfl

/-- the newest version visible at horizon `s` -/
def topOf (s : Nat) (vs : List Ver) : Option Ver := vs.find? (fun v => decide (v.seq ≤ s))

theorem topOf_eq_head?_visOf (s : Nat) (vs : List Ver) : topOf s vs = (visOf (some s) vs).head? :=
  List.head?_filter.symm

theorem topOf_newest {s : Nat} {l : List Ver} (hsd : SortedDesc l) {t : Ver} (ht : topOf s l = some t) :
    t.seq ≤ s ∧ t ∈ l ∧ ∀ u ∈ l, u.seq ≤ s → u.seq ≤ t.seq :=
  ⟨by simpa using List.find?_some ht, List.mem_of_find?_eq_some ht, fun u hu hus =>
    (find?_pairwise hsd ht hu (decide_eq_true hus)).elim (fun h => h ▸ Nat.le_refl _) Nat.le_of_lt⟩

theorem compactGo_find {snaps : List Nat} (hs : SortedAsc snaps) {s : Nat} (hmem : s ∈ snaps) (c : CCfg)
    (hr : Bool) : ∀ (vs : List Ver) (il : Bool) (prev : Option Nat), (∀ p ∈ prev, s < p) →
      topOf s (compactGo c snaps false hr il (prev.map (earliest snaps)) vs) = topOf s vs
  | [], _, _, _ => rfl
  | v :: vs, il, prev, hprev => by
    have ih := compactGo_find hs hmem c hr vs false (some v.seq)
    unfold topOf at ih ⊢
    -- the loop goes on with `some (keepVer ..).2`, which is `(some v.seq).map (earliest snaps)`
    simp only [compactGo, keepVer_snd]
    by_cases hvs : v.seq ≤ s
    · simp only [keepVer_visible hs hmem hvs hprev, if_true, List.find?_cons, hvs, decide_true]
    · have ih := ih fun p hp => Option.some.inj hp ▸ Nat.lt_of_not_le hvs
      split <;> simp only [List.find?_cons, hvs, decide_false] <;> exact ih

theorem compactGo_ldb_nil (c : CCfg) (snaps : List Nat) (hr : Bool) :
    ∀ (vs : List Ver) (il : Bool) (nv : Option Vis), compactGo c snaps true hr il nv vs = []
  | [], _, _ => rfl
  | v :: vs, il, nv => by
    have : (keepVer c snaps true hr il nv v).1 = false := by unfold keepVer; simp
    simp [compactGo, this, compactGo_ldb_nil c snaps hr vs]

theorem compactKey_head_tip {c : CCfg} {snaps : List Nat} {vs : List Ver}
    (hldb : latestDeleteAtBottom c snaps vs = false) : (compactKey c snaps vs).head? = vs.head? := by
  unfold compactKey
  rw [hldb]
  cases vs with
  | nil => rfl
  | cons v rest => simp only [compactGo, keepVer_latest, if_true, List.head?_cons]

theorem compactKey_head {c : CCfg} {snaps : List Nat} {vs : List Ver} (hs : SortedAsc snaps)
    (hldb : latestDeleteAtBottom c snaps vs = false) (ob : Option Nat) (hob : ∀ s ∈ ob, s ∈ snaps) :
    (visOf ob (compactKey c snaps vs)).head? = (visOf ob vs).head? := by
  cases ob with
  | none => exact compactKey_head_tip hldb
  | some s =>
    rw [← topOf_eq_head?_visOf, ← topOf_eq_head?_visOf, compactKey, hldb]
    exact compactGo_find hs (hob s rfl) c _ vs true none nofun

theorem sorted_last_le {vs : List Ver} (hsd : SortedDesc vs) {o : Ver} (ho : vs.getLast? = some o) :
    ∀ u ∈ vs, o.seq ≤ u.seq := by
  obtain ⟨ys, rfl⟩ := List.getLast?_eq_some_iff.mp ho
  intro u hu
  rcases List.mem_append.mp hu with hu | hu
  · exact Nat.le_of_lt ((List.pairwise_append.mp hsd).2.2 u hu o List.mem_cons_self)
  · exact List.mem_singleton.mp hu ▸ Nat.le_refl _

theorem VKind.isTomb_of_isHard {k : VKind} (h : k.isHard = true) : k.isTomb = true := by
  cases k <;> first | rfl | cases h

theorem topValue_cons_tomb {v : Ver} (l : List Ver) (h : v.kind.isTomb = true) : topValue (v :: l) = none := by
  simp only [topValue, List.head?_cons, h, if_true]

theorem topValue_of_latestDeleteAtBottom {c : CCfg} {snaps : List Nat} {vs : List Ver} (hsd : SortedDesc vs)
    (hldb : latestDeleteAtBottom c snaps vs = true) (ob : Option Nat) (hob : ∀ s ∈ ob, s ∈ snaps) :
    topValue (visOf ob vs) = none := by
  cases vs with
  | nil => cases hldb
  | cons v rest =>
    simp only [latestDeleteAtBottom, Bool.and_eq_true, Bool.not_eq_true'] at hldb
    obtain ⟨⟨-, hhard⟩, hold⟩ := hldb
    have htomb := VKind.isTomb_of_isHard hhard
    cases ob with
    | none => exact topValue_cons_tomb rest htomb
    | some s =>
      by_cases hvs : v.seq ≤ s
      · rw [visOf, List.filter_cons_of_pos (by simpa using hvs)]
        exact topValue_cons_tomb _ htomb
      · -- `s` is below the delete, hence below the oldest version: it sees nothing at all
        have hnil : visOf (some s) (v :: rest) = [] := by
          rw [visOf, List.filter_eq_nil_iff]
          intro u hu
          cases hgl : rest.getLast? with
          | none =>
            rw [List.getLast?_eq_none_iff.mp hgl, List.mem_singleton] at hu
            simpa [hu] using hvs
          | some o =>
            simp only [hgl, List.any_eq_false, Bool.and_eq_true, decide_eq_true_eq, not_and] at hold
            have h2 := hold s (hob s rfl) (by omega)
            have hle := sorted_last_le hsd (o := o) (by rw [List.getLast?_cons, hgl]; rfl) u hu
            simp; omega
        rw [hnil]; rfl

theorem compactKey_topValue {c : CCfg} {snaps : List Nat} {vs : List Ver} (hs : SortedAsc snaps)
    (hsd : SortedDesc vs) (ob : Option Nat) (hob : ∀ s ∈ ob, s ∈ snaps) :
    topValue (visOf ob (compactKey c snaps vs)) = topValue (visOf ob vs) := by
  cases hldb : latestDeleteAtBottom c snaps vs with
  | false => unfold topValue; rw [compactKey_head hs hldb ob hob]
  | true =>
    rw [topValue_of_latestDeleteAtBottom hsd hldb ob hob]
    unfold compactKey
    rw [hldb, compactGo_ldb_nil]
    cases ob <;> rfl

theorem mem_observers {snaps : List Nat} {ob : Option Nat} (h : ob ∈ observers snaps) : ∀ s ∈ ob, s ∈ snaps := by
  rintro s rfl
  simpa [observers] using h

/-- **per-key compaction never changes what a registered snapshot or a later reader sees** -/
theorem compactKey_reads_ok (c : CCfg) (snaps : List Nat) (vs : List Ver)
    (hs : SortedAsc snaps) (hsd : SortedDesc vs) :
    readsOK c snaps vs (compactKey c snaps vs) = true := by
  simp only [readsOK, Bool.and_eq_true, List.all_eq_true, List.contains_eq_mem, decide_eq_true_eq]
  refine ⟨fun ob hob => ?_, fun x hx => compactGo_sublist.subset hx⟩
  unfold topOk
  split
  · exact beq_iff_eq.mpr (compactKey_topValue hs hsd ob (mem_observers hob)).symm
  · next hb =>
    have hldb : latestDeleteAtBottom c snaps vs = false := by
      cases vs <;> simp [latestDeleteAtBottom, hb]
    exact beq_iff_eq.mpr (compactKey_head hs hldb ob (mem_observers hob)).symm
