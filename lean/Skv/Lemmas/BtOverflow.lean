import Skv.Model.BtOverflow
import Skv.Lemmas.ListAux

-- `st.get c` unfolds to `List.aget st.chains c`
theorem get_alloc_self (st : ChainStore) (b : List Nat) : (st.alloc b).1.get (st.alloc b).2 = some b :=
  (List.aget_cons _ st.chains st.next).trans (if_pos rfl)

theorem mem_free {st : ChainStore} {c : Nat} {p : Nat × List Nat} :
    p ∈ (st.free c).chains ↔ p ∈ st.chains ∧ p.1 ≠ c := by
  simp [ChainStore.free]

theorem get_free_self (st : ChainStore) (c : Nat) : (st.free c).get c = none :=
  (List.aget_filter_ne st.chains c c).trans (if_pos rfl)

theorem get_free_ne (st : ChainStore) {c d : Nat} (h : d ≠ c) : (st.free c).get d = st.get d :=
  (List.aget_filter_ne st.chains c d).trans (if_neg h)

theorem decode_of_consistent {loc : Nat} {st : ChainStore} {s : Slot} (h : slotConsistent loc st s)
    (hc : needsOvf loc s.key = true → s.ovf ≠ none) : decodeSlot loc st s = some s.key := by
  unfold decodeSlot
  split
  · next hn =>
    cases ho : s.ovf with
    | none => exact absurd ho (hc hn)
    | some c =>
      rw [slotConsistent, ho] at h
      simp [h.2, List.take_append_drop]
  · rfl

theorem prepareSlot_spec {loc : Nat} {st : ChainStore} {s : Slot} (h : slotConsistent loc st s) :
    (prepareSlot loc st s).2.key = s.key ∧ slotConsistent loc (prepareSlot loc st s).1 (prepareSlot loc st s).2 ∧
      (needsOvf loc s.key = true → (prepareSlot loc st s).2.ovf ≠ none) := by
  unfold prepareSlot
  split
  · next hn =>
    cases ho : s.ovf with
    | some c => exact ⟨rfl, h, fun _ => by simp [ho]⟩
    | none => exact ⟨rfl, ⟨hn, get_alloc_self st _⟩, fun _ => by simp⟩
  · next hn => exact ⟨rfl, trivial, fun h' => absurd h' hn⟩

/-- witness of the defect: before the repair, replacing a long separator by another long one and
writing the node makes the page decode to a different key (old tail reused) -/
theorem old_replacement_corrupts :
    let loc := 2
    let st0 : ChainStore := {}
    let (st1, s1) := prepareSlot loc st0 { key := [1, 2, 3, 4, 5], ovf := none }
    let (st2, s2) := replaceSeparatorOld st1 s1 [7, 8, 9]
    let (st3, s3) := prepareSlot loc st2 s2
    decodeSlot loc st1 s1 = some [1, 2, 3, 4, 5] ∧ decodeSlot loc st3 s3 = some [7, 8, 3, 4, 5] := by decide

/-- and replacing it by a short one drops the pointer without freeing the chain (leak) -/
theorem old_replacement_leaks :
    let loc := 2
    let st0 : ChainStore := {}
    let (st1, s1) := prepareSlot loc st0 { key := [1, 2, 3, 4, 5], ovf := none }
    let (st2, s2) := replaceSeparatorOld st1 s1 [7]
    let (st3, s3) := prepareSlot loc st2 s2
    s3.ovf = none ∧ st3.chains.length = 1 := by decide

theorem rotRight_slots {t t' : Trio} (h : rotRight t = some t') : t'.slots = t.slots := by
  unfold rotRight at h
  cases hl : t.1.getLast? with
  | none => simp [hl] at h
  | some x =>
    obtain ⟨ys, hys⟩ := List.getLast?_eq_some_iff.1 hl
    simp only [hl, Option.some.injEq] at h
    subst h
    simp [Trio.slots, hys]

theorem rotLeft_slots {t t' : Trio} (h : rotLeft t = some t') : t'.slots = t.slots := by
  unfold rotLeft at h
  cases hr : t.2.2 with
  | nil => simp [hr] at h
  | cons x rs =>
    simp only [hr, Option.some.injEq] at h
    subst h
    simp [Trio.slots, hr]

theorem dropSeparator_owned {loc : Nat} {st : ChainStore} {before after : List Slot} {sep : Slot}
    (h : Owned loc st (before ++ sep :: after)) : Owned loc (dropSeparator st sep) (before ++ after) := by
  obtain ⟨hc, hn, hl⟩ := h
  have hsub : (before ++ after).Sublist (before ++ sep :: after) :=
    (List.Sublist.refl _).append (List.sublist_cons_self _ _)
  unfold dropSeparator
  cases ho : sep.ovf with
  | none =>
    have hfm : (before ++ sep :: after).filterMap (·.ovf) = (before ++ after).filterMap (·.ovf) := by
      simp [List.filterMap_append, ho]
    exact ⟨fun s hs => hc s (hsub.subset hs), hfm ▸ hn, hfm ▸ hl⟩
  | some c =>
    have hfm : (before ++ sep :: after).filterMap (·.ovf) =
        before.filterMap (·.ovf) ++ c :: after.filterMap (·.ovf) := by
      simp [List.filterMap_append, ho]
    rw [hfm] at hn hl
    have hcnot : c ∉ (before ++ after).filterMap (·.ovf) := by
      rw [List.filterMap_append]
      exact (List.nodup_cons.1 (List.perm_middle.nodup hn)).1
    refine ⟨fun s hs => ?_, (hsub.filterMap _).nodup (hfm ▸ hn), fun p hp => ?_⟩
    · have h1 := hc s (hsub.subset hs)
      unfold slotConsistent at h1 ⊢
      cases hso : s.ovf with
      | none => trivial
      | some d =>
        rw [hso] at h1
        have hdc : d ≠ c := fun hdc => hcnot (List.mem_filterMap.2 ⟨s, hs, hdc ▸ hso⟩)
        exact ⟨h1.1, (get_free_ne st hdc).trans h1.2⟩
    · obtain ⟨hp, hne⟩ := mem_free.1 hp
      have := hl p hp
      simp only [List.filterMap_append, List.mem_append, List.mem_cons] at this ⊢
      exact this.elim .inl fun h => h.elim (absurd · hne) .inr

/-- witness for the seeded change: routing the rotation's parent update through `replace_separator`
frees the chain that moved down with the old separator — the right child's first slot no longer
decodes — and the chain that came up is dropped from the parent slot -/
theorem rotRightBad_breaks :
    let loc := 2
    let st0 : ChainStore := {}
    let (st1, a) := prepareSlot loc st0 { key := [1, 1, 1, 1], ovf := none }   -- left's last key
    let (st2, p) := prepareSlot loc st1 { key := [5, 5, 5, 5], ovf := none }   -- the separator
    let r := rotRightBad st2 ([a], p, [])
    decodeSlot loc st2 p = some [5, 5, 5, 5] ∧
      r.map (fun x => x.2.2.2.head?.bind (decodeSlot loc x.1)) = some none ∧
      r.map (fun x => x.2.2.1.ovf) = some none ∧ r.map (fun x => x.1.chains.length) = some 1 := by decide
