import Skv.Model.Wal

/-! Lemmas for C12: the reader inverts the writer.  The reader is characterised on the two branches
the theorems need (`readGo_skip`, `read_hdr`); the writer is opened once (`addGo_frags`), everything
else about one record is an induction over `Frags`. -/

theorem de16_be16 (n : Nat) (h : n < 65536) : de16 (be16 n) = n := by
  have h1 : n / 256 < 256 := by omega
  simp [de16, be16, UInt8.toNat_ofNat', Nat.mod_eq_of_lt h1, Nat.div_add_mod']

theorem hdr_length (P : Params) (ty : UInt8) (d : Bytes) :
    (P.crc ty d ++ be16 d.length ++ [ty]).length = 7 := by
  simp [P.crc_len, be16]

theorem phys_length (P : Params) (ty : UInt8) (d : Bytes) : (phys P ty d).length = 7 + d.length := by
  rw [phys, List.length_append, hdr_length]

theorem normOff_le {P : Params} {off : Nat} (h : off ≤ P.B) : normOff P off + 7 ≤ P.B := by
  have := P.hB
  unfold normOff; split <;> omega

theorem fragLen_le {P : Params} {off : Nat} (h : off ≤ P.B) (d : Bytes) :
    normOff P off + 7 + fragLen P off d ≤ P.B := by
  have := normOff_le h
  unfold fragLen; omega

theorem fragLen_le_len (P : Params) (off : Nat) (d : Bytes) : fragLen P off d ≤ d.length := by
  unfold fragLen; omega

theorem pad_norm {P : Params} {off : Nat} (h : off ≤ P.B) :
    ∃ e, off + padLen P off = normOff P off + e * P.B := by
  unfold padLen normOff
  split
  · exact ⟨1, by rw [Nat.one_mul, Nat.zero_add, Nat.add_sub_cancel' h]⟩
  · exact ⟨0, by rw [Nat.zero_mul]⟩

theorem fragTy_cases {begin isEnd : Bool} :
    fragTy begin isEnd = tyFull ∨ fragTy begin isEnd = tyFirst ∨ fragTy begin isEnd = tyMiddle ∨
      fragTy begin isEnd = tyLast := by
  cases begin <;> cases isEnd <;> simp [fragTy]

theorem fragTy_begin {begin isEnd : Bool} :
    (fragTy begin isEnd = tyFull ∨ fragTy begin isEnd = tyFirst) ↔ begin = true := by
  cases begin <;> cases isEnd <;> simp [fragTy] <;> decide

theorem fragTy_end {begin isEnd : Bool} :
    (fragTy begin isEnd = tyLast ∨ fragTy begin isEnd = tyFull) ↔ isEnd = true := by
  cases begin <;> cases isEnd <;> simp [fragTy] <;> decide

theorem chunk_lt_of_fits {P : Params} {o n : Nat} (h : o + 7 + n ≤ P.B) : n < 65536 := by
  have := P.hB16; omega

theorem frag_le_of_fits {P : Params} {o n : Nat} (h : o + 7 + n ≤ P.B) : 7 + n ≤ P.B - o :=
  Nat.le_sub_of_add_le' (Nat.add_assoc o 7 n ▸ h)

theorem readGo_skip {P : Params} {fuel : Nat} {s acc : Bytes} {k idx : Nat} {cmp : Bool}
    (h : min k s.length < 7) :
    readGo P (fuel + 1) s k idx acc cmp =
      if s.length ≤ k then (if s.length > 0 || idx > 0 then ([], .corrupt) else ([], .eof))
      else readGo P fuel (s.drop k) P.B idx acc cmp := by
  rw [readGo]
  exact if_pos h

theorem dataTy_tests {ty : UInt8} {idx : Nat}
    (hty : ty = tyFull ∨ ty = tyFirst ∨ ty = tyMiddle ∨ ty = tyLast)
    (hidx : (ty = tyFull ∨ ty = tyFirst) ↔ idx = 0) :
    (ty == 0) = false ∧ (ty == tySetCompression) = false ∧
    (ty != tyFull && ty != tyFirst && ty != tyMiddle && ty != tyLast) = false ∧
    (if (ty == tyFull || ty == tyFirst) = true then idx != 0 else idx == 0) = false := by
  rcases hty with rfl | rfl | rfl | rfl <;>
    refine ⟨rfl, rfl, rfl, ?_⟩ <;>
    simp [tyFull, tyFirst, tyMiddle, tyLast] at hidx ⊢ <;>
    exact hidx

/-- `body` may be the fragment's data and more, the data cut short, or anything else.  The block holds
the whole fragment (`hk`), so the reader's length test comes down to the stream. -/
theorem read_hdr {P : Params} {fuel : Nat} {ty : UInt8} {d body acc : Bytes} {k idx : Nat}
    (hk : 7 + d.length ≤ k) (hd : d.length < 65536)
    (hty : ty = tyFull ∨ ty = tyFirst ∨ ty = tyMiddle ∨ ty = tyLast)
    (hidx : (ty = tyFull ∨ ty = tyFirst) ↔ idx = 0) :
    readGo P (fuel + 1) (P.crc ty d ++ be16 d.length ++ [ty] ++ body) k idx acc false =
      if body.length < d.length then ([], .corrupt)
      else if P.crc ty (body.take d.length) != P.crc ty d then ([], .corrupt)
      else if ty = tyLast ∨ ty = tyFull then
        (let r := readGo P fuel (body.drop d.length) (k - (7 + d.length)) 0 [] false
         ((acc ++ body.take d.length) :: r.1, r.2))
      else readGo P fuel (body.drop d.length) (k - (7 + d.length)) (idx + 1) (acc ++ body.take d.length) false := by
  obtain ⟨t0, t9, tv, ts⟩ := dataTy_tests hty hidx
  have te : ((ty == tyLast || ty == tyFull) = true) = (ty = tyLast ∨ ty = tyFull) := by simp
  have hc := P.crc_len ty d
  -- the five places where the reader looks into the stream, settled before `readGo` is unfolded
  generalize hs : P.crc ty d ++ be16 d.length ++ [ty] ++ body = s
  have hs' : P.crc ty d ++ (be16 d.length ++ ([ty] ++ body)) = s := by
    rw [← hs, List.append_assoc, List.append_assoc]
  have hlen : s.length = 7 + body.length := by rw [← hs, List.length_append, hdr_length]
  have h4 : s.take 4 = P.crc ty d := by rw [← hs', List.take_left' hc]
  have h5 : de16 (s.drop 4) = d.length := by
    rw [← hs', List.drop_left' hc]
    exact de16_be16 _ hd
  have h6 : s.getD 6 0 = ty := by
    rw [← hs', List.getD_eq_getElem?_getD, List.getElem?_append_right (by rw [hc]; decide), hc]
    rfl
  have h7 : s.drop 7 = body := by rw [← hs, List.drop_left' (hdr_length P ty d)]
  have h8 : s.drop (7 + d.length) = body.drop d.length := by rw [← List.drop_drop, h7]
  have hrem : 7 ≤ min k (7 + body.length) :=
    Nat.le_min.mpr ⟨Nat.le_trans (Nat.le_add_right 7 _) hk, Nat.le_add_right 7 _⟩
  -- len > min k (7+|body|) - 7  ⇔  ¬(7+len ≤ k ∧ 7+len ≤ 7+|body|)  ⇔  |body| < len, as 7+len ≤ k
  -- (by hand: `omega` over `min` and `-` is slow)
  have hlt : (d.length > min k (7 + body.length) - 7) = (body.length < d.length) := by
    rw [gt_iff_lt, Nat.sub_lt_iff_lt_add hrem, ← Nat.not_le, Nat.le_min, ← Nat.not_le,
      Nat.add_comm d.length 7, Nat.add_le_add_iff_left, and_iff_right hk]
  rw [readGo]
  simp only [Nat.not_lt.mpr hrem, hlt, h4, h5, h6, h7, h8, hlen, t0, t9, tv, ts, te, if_false,
    Bool.false_eq_true, Bool.false_and]

theorem read_frag (P : Params) (fuel : Nat) (ty : UInt8) (d tail acc : Bytes) (k idx : Nat)
    (hk : 7 + d.length ≤ k) (hd : d.length < 65536)
    (hty : ty = tyFull ∨ ty = tyFirst ∨ ty = tyMiddle ∨ ty = tyLast)
    (hidx : (ty = tyFull ∨ ty = tyFirst) ↔ idx = 0) :
    readGo P (fuel + 1) (phys P ty d ++ tail) k idx acc false =
      if ty = tyLast ∨ ty = tyFull then
        (let r := readGo P fuel tail (k - (7 + d.length)) 0 [] false; ((acc ++ d) :: r.1, r.2))
      else readGo P fuel tail (k - (7 + d.length)) (idx + 1) (acc ++ d) false := by
  rw [phys, List.append_assoc, read_hdr hk hd hty hidx,
    if_neg (by simp), List.take_left' rfl, List.drop_left' rfl, bne_self_eq_false,
    if_neg Bool.false_ne_true]

/-- no padding, and no reader step, unless fewer than 7 bytes are left in the block -/
theorem read_pad {P : Params} {rf off : Nat} {t acc : Bytes} {idx : Nat} (ht : t ≠ []) :
    readGo P ((if P.B - off < 7 then 1 else 0) + rf) (List.replicate (padLen P off) (0 : UInt8) ++ t)
        (P.B - off) idx acc false = readGo P rf t (P.B - normOff P off) idx acc false := by
  unfold padLen normOff
  split
  · next hp =>
    have hl : ¬ (List.replicate (P.B - off) (0 : UInt8) ++ t).length ≤ P.B - off := by
      rw [List.length_append, List.length_replicate]
      exact Nat.not_le.mpr (Nat.lt_add_of_pos_right (List.length_pos_iff.mpr ht))
    rw [Nat.add_comm 1 rf, readGo_skip (Nat.lt_of_le_of_lt (Nat.min_le_left _ _) hp), if_neg hl,
      List.drop_left' List.length_replicate, Nat.sub_zero]
  · rw [Nat.zero_add, List.replicate_zero, List.nil_append]

theorem read_pad_frag (P : Params) (off : Nat) (ty : UInt8) (d tail acc : Bytes) (idx rf : Nat)
    (hoff : off ≤ P.B) (hd : normOff P off + 7 + d.length ≤ P.B) (hd16 : d.length < 65536)
    (hty : ty = tyFull ∨ ty = tyFirst ∨ ty = tyMiddle ∨ ty = tyLast)
    (hidx : (ty = tyFull ∨ ty = tyFirst) ↔ idx = 0) :
    readGo P ((if P.B - off < 7 then 1 else 0) + 1 + rf)
        (List.replicate (padLen P off) (0 : UInt8) ++ phys P ty d ++ tail) (P.B - off) idx acc false =
      if ty = tyLast ∨ ty = tyFull then
        (let r := readGo P rf tail (P.B - (normOff P off + 7 + d.length)) 0 [] false; ((acc ++ d) :: r.1, r.2))
      else readGo P rf tail (P.B - (normOff P off + 7 + d.length)) (idx + 1) (acc ++ d) false := by
  have hne : phys P ty d ++ tail ≠ [] := by simp [phys]
  rw [Nat.add_assoc, List.append_assoc, read_pad hne, Nat.add_comm 1 rf,
    read_frag P rf ty d tail acc _ idx (frag_le_of_fits hd) hd16 hty hidx, Nat.sub_sub, Nat.add_assoc]

/-- reader iterations needed for the fragments `addGo` emits -/
def costGo (P : Params) : Nat → Nat → Bytes → Nat
  | 0, _, _ => 0
  | fuel+1, off, d =>
    let c0 := if P.B - off < 7 then 1 else 0
    if fragLen P off d == d.length then c0 + 1
    else c0 + 1 + costGo P fuel (normOff P off + 7 + fragLen P off d) (d.drop (fragLen P off d))

/-- `Frags P off begin d W off' c`: `W` lays out `d` from block offset `off` as `Writer::add_record`
(src/wal/writer.rs) does — per fragment, zero padding to the block end if fewer than 7 bytes are left,
then a header and a chunk that fits the block — but with chunks of any size (`addGo` emits the greedy
one: `addGo_frags`).  `begin`: the first fragment is typed First/Full; `off'`: block offset afterwards;
`c`: the reader's steps over `W`, one per fragment and one per padding, as `costGo` counts. -/
inductive Frags (P : Params) : Nat → Bool → Bytes → Bytes → Nat → Nat → Prop
  | last {off begin d} : off ≤ P.B → normOff P off + 7 + d.length ≤ P.B →
      Frags P off begin d (List.replicate (padLen P off) 0 ++ phys P (fragTy begin true) d)
        (normOff P off + 7 + d.length) ((if P.B - off < 7 then 1 else 0) + 1)
  | more {off begin d₁ d₂ W off' c} : off ≤ P.B → normOff P off + 7 + d₁.length ≤ P.B →
      Frags P (normOff P off + 7 + d₁.length) false d₂ W off' c →
      Frags P off begin (d₁ ++ d₂)
        (List.replicate (padLen P off) 0 ++ phys P (fragTy begin false) d₁ ++ W) off'
        ((if P.B - off < 7 then 1 else 0) + 1 + c)

theorem addGo_frags (P : Params) (fuel : Nat) : ∀ (off : Nat) (begin : Bool) (d : Bytes), off ≤ P.B →
    d.length + (if P.B - normOff P off - 7 = 0 then 1 else 0) < fuel →
    Frags P off begin d (addGo P fuel off begin d).1 (addGo P fuel off begin d).2 (costGo P fuel off d) := by
  induction fuel with
  | zero => intro off begin d _ hd; omega
  | succ f ih =>
    intro off begin d hoff hd
    have hle := fragLen_le hoff d
    rw [addGo, costGo]
    by_cases hfl : fragLen P off d = d.length
    · rw [hfl] at hle
      simp only [hfl, beq_self_eq_true, if_true]
      exact .last hoff hle
    · -- a fragment that does not finish the record fills its block, so the next one starts a block with
      -- room for data: the fuel, which allows for one empty first fragment, stays sufficient
      have hB := P.hB
      have hn := normOff_le hoff
      have hr : P.B - normOff P off - 7 < d.length :=
        Nat.lt_of_not_le fun h => hfl (Nat.min_eq_left h)
      have hf : fragLen P off d = P.B - normOff P off - 7 := Nat.min_eq_right (Nat.le_of_lt hr)
      have h0 : normOff P (normOff P off + 7 + fragLen P off d) = 0 := by
        rw [hf, Nat.sub_sub, Nat.add_sub_cancel' hn]; simp [normOff]
      have ih' := ih _ false (d.drop (fragLen P off d)) hle (by
        rw [h0, Nat.sub_zero, if_neg (Nat.sub_ne_zero_of_lt hB), List.length_drop, hf]
        by_cases h : P.B - normOff P off - 7 = 0
        · rw [if_pos h] at hd
          rw [h]
          exact Nat.lt_of_succ_lt_succ hd
        · rw [if_neg h] at hd
          exact Nat.lt_of_lt_of_le (Nat.sub_lt (Nat.zero_lt_of_lt hr) (Nat.pos_of_ne_zero h))
            (Nat.le_of_lt_succ hd))
      simp only [beq_iff_eq, hfl, if_false]
      -- `d` as the chunk written now and the rest
      generalize hx : normOff P off + 7 + fragLen P off d = x at hle ih' ⊢
      rw [← List.length_take_of_le (fragLen_le_len P off d)] at hx
      subst hx
      have h := Frags.more (begin := begin) hoff hle ih'
      rwa [List.take_append_drop] at h

theorem Frags.off_le {P off begin d W off' c} (h : Frags P off begin d W off' c) : off' ≤ P.B := by
  induction h with
  | last _ hfit => exact hfit
  | more _ _ _ ih => exact ih

theorem Frags.cost_le {P off begin d W off' c} (h : Frags P off begin d W off' c) : c ≤ W.length := by
  have h1 : ∀ {o}, (if P.B - o < 7 then 1 else 0) + 1 ≤ 7 := by intro o; split <;> decide
  induction h with
  | last =>
    rw [List.length_append, phys_length]
    exact Nat.le_trans h1 (Nat.le_trans (Nat.le_add_right 7 _) (Nat.le_add_left _ _))
  | more _ _ _ ih =>
    rw [List.length_append, List.length_append, phys_length]
    exact Nat.add_le_add
      (Nat.le_trans h1 (Nat.le_trans (Nat.le_add_right 7 _) (Nat.le_add_left _ _))) ih

theorem Frags.len {P off begin d W off' c} (h : Frags P off begin d W off' c) :
    ∃ q, off + W.length = off' + q * P.B := by
  induction h with
  | last hoff _ =>
    obtain ⟨e, he⟩ := pad_norm hoff
    exact ⟨e, by rw [List.length_append, List.length_replicate, phys_length]; omega⟩
  | more hoff _ _ ih =>
    obtain ⟨q, hq⟩ := ih
    obtain ⟨e, he⟩ := pad_norm hoff
    refine ⟨q + e, ?_⟩
    rw [Nat.add_mul, List.length_append, List.length_append, List.length_replicate, phys_length]
    omega

theorem Frags.read {P off begin d W off' c} (h : Frags P off begin d W off' c) :
    ∀ (tail acc : Bytes) (idx rf : Nat), (begin = true ↔ idx = 0) →
    readGo P (c + rf) (W ++ tail) (P.B - off) idx acc false =
      (let r := readGo P rf tail (P.B - off') 0 [] false; ((acc ++ d) :: r.1, r.2)) := by
  induction h with
  | last hoff hfit =>
    intro tail acc idx rf hbi
    rw [read_pad_frag P _ _ _ tail acc idx rf hoff hfit (chunk_lt_of_fits hfit) fragTy_cases
      (fragTy_begin.trans hbi), if_pos (fragTy_end.mpr rfl)]
  | more hoff hfit _ ih =>
    intro tail acc idx rf hbi
    rw [Nat.add_assoc, List.append_assoc, read_pad_frag P _ _ _ _ acc idx _ hoff hfit
      (chunk_lt_of_fits hfit) fragTy_cases (fragTy_begin.trans hbi),
      if_neg fun h => Bool.false_ne_true (fragTy_end.mp h), ih tail _ (idx + 1) rf (by simp),
      List.append_assoc]

theorem read_addGo (P : Params) (fuel : Nat) : ∀ (off : Nat) (begin : Bool) (d tail acc : Bytes) (idx rf : Nat),
    off ≤ P.B → d.length + (if P.B - normOff P off - 7 = 0 then 1 else 0) < fuel → (begin = true ↔ idx = 0) →
    readGo P (costGo P fuel off d + rf) ((addGo P fuel off begin d).1 ++ tail) (P.B - off) idx acc false =
      (let r := readGo P rf tail (P.B - (addGo P fuel off begin d).2) 0 [] false
       ((acc ++ d) :: r.1, r.2)) :=
  fun off begin d tail acc idx rf hoff hd hbi =>
    (addGo_frags P fuel off begin d hoff hd).read tail acc idx rf hbi

def costAll (P : Params) (off : Nat) : List Bytes → Nat
  | [] => 0
  | r :: rs => costGo P (r.length + 2) off r + costAll P (addRecord P off r).2 rs

theorem addRecord_frags {P : Params} {off : Nat} (h : off ≤ P.B) (r : Bytes) :
    Frags P off true r (addRecord P off r).1 (addRecord P off r).2 (costGo P (r.length + 2) off r) :=
  addGo_frags P _ off true r h (by split <;> omega)

theorem writeAll_off_le (P : Params) (rs : List Bytes) : ∀ off, off ≤ P.B → (writeAll P off rs).2 ≤ P.B := by
  induction rs with
  | nil => intro off h; exact h
  | cons r rs ih => intro off h; exact ih _ (addRecord_frags h r).off_le

theorem read_writeAll (P : Params) (rs : List Bytes) : ∀ (off : Nat) (tail : Bytes) (rf : Nat), off ≤ P.B →
    readGo P (costAll P off rs + rf) ((writeAll P off rs).1 ++ tail) (P.B - off) 0 [] false =
      (let r := readGo P rf tail (P.B - (writeAll P off rs).2) 0 [] false
       (rs ++ r.1, r.2)) := by
  induction rs with
  | nil => intro off tail rf _; simp [writeAll, costAll]
  | cons r rs ih =>
    intro off tail rf hoff
    have hr := addRecord_frags hoff r
    rw [writeAll, costAll, Nat.add_assoc, List.append_assoc, hr.read _ [] 0 _ (by simp),
      ih _ tail rf hr.off_le]
    rfl

theorem costAll_le (P : Params) (rs : List Bytes) : ∀ off, off ≤ P.B →
    costAll P off rs ≤ (writeAll P off rs).1.length := by
  induction rs with
  | nil => intro off _; exact Nat.zero_le _
  | cons r rs ih =>
    intro off h
    have hr := addRecord_frags h r
    have := ih _ hr.off_le
    have := hr.cost_le
    simp only [costAll, writeAll, List.length_append]
    omega

/-- after the records the reader goes on in `junk` with at least the fuel `readAll` gives `junk` alone -/
theorem readAll_writeAll_append (P : Params) (rs : List Bytes) (junk : Bytes) :
    ∃ rf, readAll P ((writeAll P 0 rs).1 ++ junk) =
      (let r := readGo P (rf + junk.length + 2) junk (P.B - (writeAll P 0 rs).2) 0 [] false
       (rs ++ r.1, r.2)) := by
  have hc := costAll_le P rs 0 (Nat.zero_le _)
  refine ⟨(writeAll P 0 rs).1.length - costAll P 0 rs, ?_⟩
  rw [← read_writeAll P rs 0 junk _ (Nat.zero_le _), readAll, List.length_append]
  congr 1; omega

/-- C12.1: every list of records written from the start of a segment reads back exactly, then clean EOF -/
theorem wal_roundtrip (P : Params) (rs : List Bytes) :
    readAll P (writeAll P 0 rs).1 = (rs, .eof) := by
  obtain ⟨rf, h⟩ := readAll_writeAll_append P rs []
  rw [List.append_nil] at h
  rw [h, readGo_skip (by simp)]
  simp

theorem writeAll_len (P : Params) (rs : List Bytes) : ∀ off, off ≤ P.B →
    ∃ q, off + (writeAll P off rs).1.length = (writeAll P off rs).2 + q * P.B := by
  induction rs with
  | nil => intro off _; exact ⟨0, by simp [writeAll]⟩
  | cons r rs ih =>
    intro off h
    have hr := addRecord_frags h r
    obtain ⟨q1, h1⟩ := hr.len
    obtain ⟨q2, h2⟩ := ih _ hr.off_le
    simp only [writeAll, List.length_append]
    exact ⟨q1 + q2, by rw [Nat.add_mul]; omega⟩

theorem addGo_off_B (P : Params) (f : Nat) (begin : Bool) (d : Bytes) :
    addGo P (f + 1) P.B begin d = addGo P (f + 1) 0 begin d := by
  have hB := P.hB
  have h1 : padLen P P.B = padLen P 0 := by simp [padLen]; omega
  have h2 : normOff P P.B = normOff P 0 := by simp [normOff]
  rw [addGo, addGo, fragLen, fragLen, h1, h2]

theorem writeAll_append (P : Params) (rs1 rs2 : List Bytes) : ∀ off,
    (writeAll P off (rs1 ++ rs2)).1 = (writeAll P off rs1).1 ++ (writeAll P (writeAll P off rs1).2 rs2).1 ∧
    (writeAll P off (rs1 ++ rs2)).2 = (writeAll P (writeAll P off rs1).2 rs2).2 := by
  induction rs1 with
  | nil => intro off; simp [writeAll]
  | cons r rs ih =>
    intro off
    have := ih (addRecord P off r).2
    simp only [List.cons_append, writeAll, this.1, this.2, List.append_assoc, and_self]

/-- the writer had stopped at offset `len mod B`, or at exactly `B`, which behaves like 0
(`addGo_off_B`) -/
theorem appendSession_writeAll (P : Params) (rs1 rs2 : List Bytes) :
    appendSession P (writeAll P 0 rs1).1 rs2 = (writeAll P 0 (rs1 ++ rs2)).1 := by
  obtain ⟨q, hq⟩ := writeAll_len P rs1 0 (Nat.zero_le _)
  have hle := writeAll_off_le P rs1 0 (Nat.zero_le _)
  rw [Nat.zero_add] at hq
  rw [appendSession, (writeAll_append P rs1 rs2 0).1, hq, Nat.add_mul_mod_self_right]
  rcases Nat.lt_or_eq_of_le hle with h | h
  · rw [Nat.mod_eq_of_lt h]
  · rw [h, Nat.mod_self]
    cases rs2 with
    | nil => rfl
    | cons r rs => simp only [writeAll, addRecord, addGo_off_B]
