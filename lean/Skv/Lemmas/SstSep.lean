import Skv.Model.SstSep
import Skv.Lemmas.SstOrder

theorem bsep_lt {a b : List Nat} (h : a < b) : bsep a b < b := by
  fun_induction bsep a b with
  | case1 b => exact h
  | case2 a _ => exact absurd h (List.not_lt_nil _)
  | case3 x a b ih =>
    exact List.cons_lt_cons_iff.mpr
      (.inr ⟨rfl, ih ((List.cons_lt_cons_iff.mp h).resolve_left (Nat.lt_irrefl _)).2⟩)
  | case4 x a y b hxy hle => rcases List.cons_lt_cons_iff.mp h with h | ⟨h, _⟩ <;> omega
  | case5 x a y b hxy hle hc =>
    rw [List.cons_lt_cons_iff]
    rcases hc with hc | hc
    · rcases Nat.lt_or_ge (x + 1) y with h1 | h1
      · exact .inl h1
      · exact .inr ⟨by omega, by cases b with | nil => exact absurd rfl hc | cons => exact List.nil_lt_cons _ _⟩
    · exact .inl hc
  | case6 x a y b hxy hle hc => exact List.cons_lt_cons_iff.mpr (.inl (by omega))

theorem isep_cases (m : Nat) (a b : IKey) :
    isep m a b = a ∨ (isep m a b = ⟨bsep a.uk b.uk, m⟩ ∧ a.uk ≠ b.uk ∧ a.uk < bsep a.uk b.uk) := by
  unfold isep
  by_cases hab : a = b
  · exact .inl (if_pos hab)
  · rw [if_neg hab]
    by_cases huk : a.uk ≠ b.uk
    · rw [if_pos huk]
      by_cases hs : (bsep a.uk b.uk).length ≤ a.uk.length ∧ a.uk < bsep a.uk b.uk
      · exact .inr ⟨if_pos hs, huk, hs.2⟩
      · exact .inl (if_neg hs)
    · exact .inl (if_neg huk)

theorem isep_ge (m : Nat) (a b : IKey) : ikLe a (isep m a b) = true := by
  rcases isep_cases m a b with h | ⟨h, _, hs⟩ <;> rw [h]
  · exact ikLe_refl a
  · exact ikLe_of_lt (ikLt_iff.mpr (.inl hs))
