import Skv.Model.Oracle
import Skv.Lemmas.ListAux
/-!
`publish` is taken apart into stamping the keys and (sometimes) collecting old entries; the
soundness invariant `OInv` of the oracle transition system goes through each half on its own.  For `rollback` the
batch leaves `live` first (`oinv_sublist`), then the map changes one key at a time (`oinv_unstampKey`, an erasure or an
insertion at one key, both by `oinv_update`).
-/
open Oracle

abbrev OMap := List (Nat × OEntry)

def KeysNodup (m : OMap) : Prop := (m.map (·.1)).Nodup

/-- `lookup m k` unfolds to `List.aget m k` -/
theorem lookup_cons (q : Nat × OEntry) (m : OMap) (k : Nat) :
    lookup (q :: m) k = if k = q.1 then some q.2 else lookup m k := List.aget_cons q m k

theorem lookup_filter_val {m : OMap} (h : KeysNodup m) (p : OEntry → Bool) (k : Nat) :
    lookup (m.filter (fun q => p q.2)) k = (lookup m k).filter p := by
  induction m with
  | nil => rfl
  | cons q r ih =>
    obtain ⟨hq, hr⟩ := List.nodup_cons.mp h
    by_cases hk : k = q.1
    · subst hk
      have : lookup r q.1 = none := List.aget_eq_none_iff.mpr hq
      cases hp : p q.2 <;> simp [lookup_cons, ih hr, hp, this, Option.filter]
    · cases hp : p q.2 <;> simp [lookup_cons, ih hr, hk, hp]

theorem lookup_filter_seq {m : OMap} (h : KeysNodup m) (oa k : Nat) (e : OEntry) :
    lookup (m.filter (fun p => p.2.seq ≥ oa)) k = some e ↔ lookup m k = some e ∧ oa ≤ e.seq := by
  rw [lookup_filter_val h (fun e => decide (e.seq ≥ oa)) k, Option.filter_eq_some_iff]
  simp

theorem lookup_erase (m : OMap) (k k' : Nat) :
    lookup (Oracle.erase m k) k' = if k' = k then none else lookup m k' := List.aget_filter_ne m k k'

theorem lookup_insert (m : OMap) (k : Nat) (v : OEntry) (k' : Nat) :
    lookup (Oracle.insert m k v) k' = if k' = k then some v else lookup m k' :=
  (lookup_cons (k, v) _ k').trans (ite_congr rfl (fun _ => rfl) fun h => (lookup_erase m k k').trans (if_neg h))

theorem filter_nodup {m : OMap} (h : KeysNodup m) (p : Nat × OEntry → Bool) : KeysNodup (m.filter p) :=
  List.Nodup.sublist ((List.filter_sublist).map _) h

theorem insert_nodup {m : OMap} (h : KeysNodup m) (k : Nat) (v : OEntry) : KeysNodup (Oracle.insert m k v) := by
  unfold KeysNodup Oracle.insert
  simp only [List.map_cons, List.nodup_cons]
  refine ⟨?_, filter_nodup h _⟩
  intro hm
  simp only [List.mem_map, List.mem_filter] at hm
  obtain ⟨p, ⟨_, hp⟩, hk⟩ := hm
  simp [hk] at hp

def stampOf (s : Nat) : Option OEntry → OEntry
  | some c => if c.seq != s then ⟨s, .stamp c.seq⟩ else c
  | none => ⟨s, .absent⟩

theorem stampOf_seq (s : Nat) (x : Option OEntry) : (stampOf s x).seq = s := by
  unfold stampOf
  split
  · split
    · rfl
    · rename_i h; simpa using h
  · rfl

theorem stampOf_idem (s : Nat) (x : Option OEntry) : stampOf s (some (stampOf s x)) = stampOf s x := by
  have := stampOf_seq s x
  generalize stampOf s x = e at this
  simp [stampOf, this]

theorem lookup_stampKey (s : Nat) (m : OMap) (k k' : Nat) :
    lookup (stampKey s m k) k' = if k' = k then some (stampOf s (lookup m k)) else lookup m k' := by
  unfold stampKey stampOf
  cases hl : lookup m k with
  | none => simp [lookup_insert]
  | some cur => by_cases hs : cur.seq = s <;> by_cases h : k' = k <;> simp [hs, h, hl, lookup_insert]

theorem stampKey_nodup {m : OMap} (h : KeysNodup m) (s k : Nat) : KeysNodup (stampKey s m k) := by
  unfold stampKey
  split
  · split
    · exact insert_nodup h _ _
    · exact h
  · exact insert_nodup h _ _

theorem foldl_stampKey_nodup {m : OMap} (h : KeysNodup m) (s : Nat) (keys : List Nat) :
    KeysNodup (keys.foldl (stampKey s) m) :=
  List.foldlRecOn keys _ h fun _ hm k _ => stampKey_nodup hm s k

theorem lookup_foldl_stampKey (s : Nat) (keys : List Nat) (m : OMap) (k : Nat) :
    lookup (keys.foldl (stampKey s) m) k = if k ∈ keys then some (stampOf s (lookup m k)) else lookup m k := by
  induction keys generalizing m with
  | nil => simp
  | cons a as ih =>
    rw [List.foldl_cons, ih, lookup_stampKey]
    by_cases hka : k = a <;> by_cases hk : k ∈ as <;> simp [hka, hk, stampOf_idem]

theorem check_spec (o : Oracle) (keys : List Nat) (start : Nat) :
    match o.check keys start with
    | .ok _ => o.keptSince ≤ start ∧ ∀ k ∈ keys, ∀ e, lookup o.recent k = some e → e.seq ≤ start
    | .error .retry => start < o.keptSince
    | .error .conflict => ∃ k ∈ keys, ∃ e, lookup o.recent k = some e ∧ start < e.seq := by
  unfold Oracle.check
  by_cases h1 : start < o.keptSince
  · rw [if_pos h1]; exact h1
  · rw [if_neg h1]
    generalize hany : List.any keys _ = a
    cases a with
    | true =>
      obtain ⟨k, hk, hm⟩ := List.any_eq_true.mp hany
      cases hl : lookup o.recent k with
      | none => simp [hl] at hm
      | some e => exact ⟨k, hk, e, hl, by simpa [hl] using hm⟩
    | false =>
      refine ⟨Nat.le_of_not_lt h1, fun k hk e he => ?_⟩
      simpa [he] using List.any_eq_false.mp hany k hk

theorem publish_cases (gc : Nat) (o : Oracle) (keys : List Nat) (seq count oa : Nat) :
    o.publish gc keys seq count oa =
      { o with recent := keys.foldl (stampKey (seq + count - 1)) o.recent, sinceGc := o.sinceGc + 1 } ∨
    (o.keptSince < oa ∧ o.publish gc keys seq count oa =
      ⟨(keys.foldl (stampKey (seq + count - 1)) o.recent).filter (fun p => p.2.seq ≥ oa), oa, 0⟩) := by
  unfold Oracle.publish
  dsimp only
  split
  · rename_i hc
    simp only [ge_iff_le, Bool.and_eq_true, decide_eq_true_eq] at hc
    exact .inr ⟨hc.2, rfl⟩
  · exact .inl rfl

def sharesKey (a b : List Nat) : Prop := ∃ k, k ∈ a ∧ k ∈ b

structure OInv (s : OState) : Prop where
  nodup : KeysNodup s.o.recent
  stampsLt : ∀ b ∈ s.live, b.stamp < s.next
  seqLt : ∀ k e, lookup s.o.recent k = some e → e.seq < s.next
  distinct : s.live.Pairwise (fun a b => a.stamp ≠ b.stamp)
  /-- every live batch inside the kept window is covered by an entry at least as new -/
  cover : ∀ b ∈ s.live, s.o.keptSince ≤ b.stamp → ∀ k ∈ b.keys,
      ∃ e, lookup s.o.recent k = some e ∧ b.stamp ≤ e.seq
  /-- what an entry remembers as overwritten dominates every older live batch on that key -/
  prevOk : ∀ k e, lookup s.o.recent k = some e → ∀ b ∈ s.live, b.stamp < e.seq → k ∈ b.keys →
      s.o.keptSince ≤ b.stamp → (e.prev = .unknown ∨ ∃ p, e.prev = .stamp p ∧ b.stamp ≤ p)
  /-- a remembered overwritten stamp is older than the entry's own stamp -/
  prevLt : ∀ k e, lookup s.o.recent k = some e → ∀ p, e.prev = .stamp p → p < e.seq
  /-- first committer wins: of two live batches sharing a key, the later began after the earlier committed -/
  fcw : s.live.Pairwise (fun a b => sharesKey a.keys b.keys → a.stamp ≤ b.start)

theorem oinv_init : OInv OState.init :=
  ⟨List.nodup_nil, nofun, fun _ _ h => (by cases h), .nil, nofun, fun _ _ h => (by cases h),
    fun _ _ h => (by cases h), .nil⟩

theorem check_sound (s : OState) (h : OInv s) (keys : List Nat) (start : Nat)
    (hok : s.o.check keys start = .ok ()) :
    ∀ b ∈ s.live, start < b.stamp → ¬ sharesKey b.keys keys := by
  intro b hb hlt ⟨k, hkb, hk⟩
  have hc := check_spec s.o keys start
  rw [hok] at hc
  obtain ⟨e, he, hle⟩ := h.cover b hb (Nat.le_trans hc.1 (Nat.le_of_lt hlt)) k hkb
  exact Nat.lt_irrefl _ (Nat.lt_of_lt_of_le hlt (Nat.le_trans hle (hc.2 k hk e he)))

theorem oinv_gc {s : OState} (h : OInv s) {oa : Nat} (sg : Nat) (hoa : s.o.keptSince ≤ oa) :
    OInv { s with o := ⟨s.o.recent.filter (fun p => p.2.seq ≥ oa), oa, sg⟩ } := by
  have hlk := lookup_filter_seq h.nodup oa
  refine ⟨filter_nodup h.nodup _, h.stampsLt, ?_, h.distinct, ?_, ?_, ?_, h.fcw⟩
  · intro k e he; exact h.seqLt k e ((hlk k e).mp he).1
  · intro b hb hk k hkb
    obtain ⟨e, he, hle⟩ := h.cover b hb (Nat.le_trans hoa hk) k hkb
    exact ⟨e, (hlk k e).mpr ⟨he, Nat.le_trans hk hle⟩, hle⟩
  · intro k e he b hb hlt hkb hk
    exact h.prevOk k e ((hlk k e).mp he).1 b hb hlt hkb (Nat.le_trans hoa hk)
  · intro k e he; exact h.prevLt k e ((hlk k e).mp he).1

theorem oinv_stamp {s : OState} (h : OInv s) {keys : List Nat} {start : Nat} (sg : Nat) (hne : keys ≠ [])
    (hok : s.o.check keys start = .ok ()) :
    OInv { o := { s.o with recent := keys.foldl (stampKey (s.next + keys.length - 1)) s.o.recent, sinceGc := sg },
           next := s.next + keys.length, live := s.live ++ [⟨keys, s.next + keys.length - 1, start⟩] } := by
  have hlen : 0 < keys.length := List.length_pos_iff.mpr hne
  have hge : s.next ≤ s.next + keys.length - 1 := Nat.le_sub_one_of_lt (Nat.lt_add_of_pos_right hlen)
  have hlt : s.next + keys.length - 1 < s.next + keys.length :=
    Nat.sub_one_lt (Nat.ne_of_gt (Nat.add_pos_right _ hlen))
  generalize s.next + keys.length - 1 = stamp at hge hlt ⊢
  -- a stamped key holds `stampOf stamp old`, of seq `stamp`, above every old entry and every old batch
  have hlk := lookup_foldl_stampKey stamp keys s.o.recent
  have hnew : ∀ b ∈ s.live ++ [⟨keys, stamp, start⟩],
      b ∈ s.live ∧ b.stamp < stamp ∨ b = ⟨keys, stamp, start⟩ := by
    intro b hb
    rcases List.mem_append.mp hb with hb | hb
    · exact .inl ⟨hb, Nat.lt_of_lt_of_le (h.stampsLt b hb) hge⟩
    · exact .inr (List.mem_singleton.mp hb)
  refine ⟨foldl_stampKey_nodup h.nodup _ _, ?_, ?_, ?_, ?_, ?_, ?_, ?_⟩
  · intro b hb
    rcases hnew b hb with ⟨_, hb⟩ | rfl
    · exact Nat.lt_trans hb hlt
    · exact hlt
  · intro k e he
    dsimp only at he ⊢
    rw [hlk] at he
    split at he
    · cases he; rw [stampOf_seq]; exact hlt
    · exact Nat.lt_of_lt_of_le (h.seqLt k e he) (Nat.le_add_right _ _)
  · refine List.pairwise_append.mpr ⟨h.distinct, List.pairwise_singleton _ _, fun a ha b hb => ?_⟩
    cases List.mem_singleton.mp hb
    exact Nat.ne_of_lt (Nat.lt_of_lt_of_le (h.stampsLt a ha) hge)
  · intro b hb hk k hkb
    dsimp only at hk ⊢
    rw [hlk]
    rcases hnew b hb with ⟨hb, hbs⟩ | rfl
    · obtain ⟨e0, he0, hle0⟩ := h.cover b hb hk k hkb
      split
      · exact ⟨_, rfl, by rw [stampOf_seq]; exact Nat.le_of_lt hbs⟩
      · exact ⟨e0, he0, hle0⟩
    · exact ⟨_, if_pos hkb, by rw [stampOf_seq]; exact Nat.le_refl _⟩
  · intro k e he b hb hbe hkb hk
    dsimp only at he hk
    rw [hlk] at he
    split at he
    · cases he
      rw [stampOf_seq] at hbe
      rcases hnew b hb with ⟨hb, _⟩ | rfl
      · -- a freshly stamped entry remembers what was there, which covered `b`
        obtain ⟨e0, he0, hle0⟩ := h.cover b hb hk k hkb
        have hne0 : e0.seq ≠ stamp := Nat.ne_of_lt (Nat.lt_of_lt_of_le (h.seqLt k e0 he0) hge)
        exact .inr ⟨e0.seq, by simp [he0, stampOf, hne0], hle0⟩
      · exact absurd hbe (Nat.lt_irrefl _)
    · rename_i hnin
      rcases hnew b hb with ⟨hb, _⟩ | rfl
      · exact h.prevOk k e he b hb hbe hkb hk
      · exact absurd hkb hnin
  · intro k e he p hp
    dsimp only at he
    rw [hlk] at he
    split at he
    · cases he
      cases hl : lookup s.o.recent k with
      | none => simp [hl, stampOf] at hp
      | some e0 =>
        have hlt0 := Nat.lt_of_lt_of_le (h.seqLt k e0 hl) hge
        simp only [hl, stampOf, bne_iff_ne, ne_eq, Nat.ne_of_lt hlt0, not_false_eq_true, if_true] at hp ⊢
        cases hp; exact hlt0
    · exact h.prevLt k e he p hp
  · refine List.pairwise_append.mpr ⟨h.fcw, List.pairwise_singleton _ _, fun a ha b hb => ?_⟩
    cases List.mem_singleton.mp hb
    intro hshare
    exact Nat.le_of_not_lt fun hlt => check_sound s h keys start hok a ha hlt hshare

theorem oinv_commit {s : OState} (h : OInv s) (gc : Nat) {keys : List Nat} {start : Nat} (oa : Nat)
    (hne : keys ≠ []) (hok : s.o.check keys start = .ok ()) :
    OInv { o := s.o.publish gc keys s.next keys.length (min oa start), next := s.next + keys.length,
           live := s.live ++ [⟨keys, s.next + keys.length - 1, start⟩] } := by
  rcases publish_cases gc s.o keys s.next keys.length (min oa start) with e | ⟨hlt, e⟩ <;> rw [e]
  · exact oinv_stamp h _ hne hok
  · exact oinv_gc (oinv_stamp h 0 hne hok) 0 (Nat.le_of_lt hlt)

theorem oinv_sublist {s : OState} (h : OInv s) {l : List OBatch} (hl : l.Sublist s.live) :
    OInv { s with live := l } :=
  ⟨h.nodup, fun b hb => h.stampsLt b (hl.subset hb), h.seqLt, h.distinct.sublist hl,
    fun b hb => h.cover b (hl.subset hb), fun k e he b hb => h.prevOk k e he b (hl.subset hb), h.prevLt,
    h.fcw.sublist hl⟩

theorem oinv_update {s : OState} (h : OInv s) {m : OMap} {k : Nat} {x : Option OEntry} (hnd : KeysNodup m)
    (hlk : ∀ k', lookup m k' = if k' = k then x else lookup s.o.recent k')
    (hx : ∀ e, x = some e → e.seq < s.next ∧ (∀ p, e.prev = .stamp p → p < e.seq) ∧
      ∀ b ∈ s.live, b.stamp < e.seq → k ∈ b.keys → s.o.keptSince ≤ b.stamp →
        (e.prev = .unknown ∨ ∃ p, e.prev = .stamp p ∧ b.stamp ≤ p))
    (hcov : ∀ b ∈ s.live, s.o.keptSince ≤ b.stamp → k ∈ b.keys → ∃ e, x = some e ∧ b.stamp ≤ e.seq) :
    OInv { s with o := { s.o with recent := m } } := by
  have hold : ∀ k' e, lookup m k' = some e → k' = k ∧ x = some e ∨ lookup s.o.recent k' = some e := by
    intro k' e he
    rw [hlk] at he
    split at he
    · exact .inl ⟨‹_›, he⟩
    · exact .inr he
  refine ⟨hnd, h.stampsLt, ?_, h.distinct, ?_, ?_, ?_, h.fcw⟩
  · intro k' e he
    rcases hold k' e he with ⟨_, hxe⟩ | ho
    · exact (hx e hxe).1
    · exact h.seqLt k' e ho
  · intro b hb hks k' hkb
    dsimp only
    rw [hlk]
    split
    · subst k'; exact hcov b hb hks hkb
    · exact h.cover b hb hks k' hkb
  · intro k' e he
    rcases hold k' e he with ⟨rfl, hxe⟩ | ho
    · exact (hx e hxe).2.2
    · exact h.prevOk k' e ho
  · intro k' e he
    rcases hold k' e he with ⟨_, hxe⟩ | ho
    · exact (hx e hxe).2.1
    · exact h.prevLt k' e ho

theorem oinv_unstampKey {s : OState} (h : OInv s) {t : Nat} (ht : ∀ b ∈ s.live, b.stamp ≠ t) (k : Nat) :
    OInv { s with o := { s.o with recent := unstampKey t s.o.recent k } } := by
  unfold unstampKey
  cases hl : lookup s.o.recent k with
  | none => exact h
  | some v =>
    dsimp only
    split
    · rename_i hs
      have hs : v.seq = t := by simpa using hs
      -- a live batch on `k` in the window is older than `v`, so `v` remembers what covered it
      have hrem : ∀ b ∈ s.live, s.o.keptSince ≤ b.stamp → k ∈ b.keys →
          v.prev = .unknown ∨ ∃ p, v.prev = .stamp p ∧ b.stamp ≤ p := by
        intro b hb hks hkb
        obtain ⟨e, he, hle⟩ := h.cover b hb hks k hkb
        cases hl.symm.trans he
        exact h.prevOk k v hl b hb (Nat.lt_of_le_of_ne hle fun heq => ht b hb (heq.trans hs)) hkb hks
      cases hp : v.prev with
      | absent =>
        exact oinv_update h (filter_nodup h.nodup _) (lookup_erase _ k) nofun
          fun b hb hks hkb => by simpa [hp] using hrem b hb hks hkb
      | stamp p =>
        refine oinv_update h (insert_nodup h.nodup k _) (lookup_insert _ k _) ?_
          fun b hb hks hkb => ⟨_, rfl, by simpa [hp] using hrem b hb hks hkb⟩
        intro e he
        cases he
        exact ⟨Nat.lt_trans (h.prevLt k v hl p hp) (h.seqLt k v hl), nofun, fun _ _ _ _ _ => .inl rfl⟩
      | unknown => exact h
    · exact h

theorem oinv_rollback {s : OState} (h : OInv s) (keys : List Nat) (stamp : Nat) :
    OInv { s with o := s.o.rollback keys stamp, live := s.live.filter (fun x => x.stamp != stamp) } :=
  List.foldlRecOn keys _ (oinv_sublist h List.filter_sublist)
    (motive := fun m => OInv { s with o := { s.o with recent := m }, live := s.live.filter (fun x => x.stamp != stamp) })
    fun _ hm k _ => oinv_unstampKey hm (fun b hb => by simpa using (List.mem_filter.mp hb).2) k

theorem OState.step_commit (gc : Nat) (s : OState) (keys : List Nat) (start oa : Nat) :
    (s.step gc (.commit keys start oa)).1 = s ∨
    (keys ≠ [] ∧ s.o.check keys start = .ok () ∧
      (s.step gc (.commit keys start oa)).1 =
        { o := s.o.publish gc keys s.next keys.length (min oa start), next := s.next + keys.length,
          live := s.live ++ [⟨keys, s.next + keys.length - 1, start⟩] }) := by
  simp only [OState.step]
  split
  · exact .inl rfl
  · rename_i hne
    split
    · exact .inl rfl
    · rename_i u hok
      exact .inr ⟨by intro h0; simp [h0] at hne, hok, rfl⟩

theorem OState.step_fail (gc : Nat) (s : OState) (stamp : Nat) :
    (s.step gc (.fail stamp)).1 = s ∨
    ∃ b ∈ s.live, (s.step gc (.fail stamp)).1 =
      { s with o := s.o.rollback b.keys b.stamp, live := s.live.filter (fun x => x.stamp != b.stamp) } := by
  simp only [OState.step]
  split
  · exact .inl rfl
  · rename_i b hf
    obtain ⟨hm, rfl⟩ := List.find?_key_eq_some hf
    exact .inr ⟨b, hm, rfl⟩

theorem OState.step_keptSince (gc : Nat) (s : OState) (ev : OEv) :
    (s.step gc ev).1.o.keptSince = s.o.keptSince ∨
    ∃ keys start oa, ev = .commit keys start oa ∧ (s.step gc ev).1.o.keptSince = min oa start ∧
      s.o.keptSince < min oa start := by
  cases ev with
  | commit keys start oa =>
    rcases OState.step_commit gc s keys start oa with h | ⟨_, _, h⟩
    · rw [h]; exact .inl rfl
    · rw [h]
      rcases publish_cases gc s.o keys s.next keys.length (min oa start) with e | ⟨hlt, e⟩ <;> rw [e]
      · exact .inl rfl
      · exact .inr ⟨_, _, _, rfl, rfl, hlt⟩
  | fail stamp =>
    rcases OState.step_fail gc s stamp with h | ⟨b, _, h⟩ <;> rw [h] <;> exact .inl rfl

theorem oinv_step {s : OState} (h : OInv s) (gc : Nat) (ev : OEv) : OInv (s.step gc ev).1 := by
  cases ev with
  | commit keys start oa =>
    rcases OState.step_commit gc s keys start oa with e | ⟨hne, hok, e⟩ <;> rw [e]
    · exact h
    · exact oinv_commit h gc oa hne hok
  | fail stamp =>
    rcases OState.step_fail gc s stamp with e | ⟨b, _, e⟩ <;> rw [e]
    · exact h
    · exact oinv_rollback h b.keys b.stamp

def OState.run (gc : Nat) (s : OState) : List OEv → OState
  | [] => s
  | ev :: evs => OState.run gc (s.step gc ev).1 evs

theorem oinv_run {s : OState} (h : OInv s) (gc : Nat) (evs : List OEv) : OInv (s.run gc evs) := by
  induction evs generalizing s with
  | nil => exact h
  | cons ev evs ih => exact ih (oinv_step h gc ev)

def noFail : List OEv → Prop
  | [] => True
  | .fail _ :: _ => False
  | .commit .. :: evs => noFail evs

/-- every entry of the map is the stamp of a live batch that wrote the key -/
def Exact (s : OState) : Prop :=
  ∀ k e, lookup s.o.recent k = some e → ∃ b ∈ s.live, b.stamp = e.seq ∧ k ∈ b.keys

theorem exact_commit {s : OState} (hi : OInv s) (h : Exact s) (gc : Nat) (keys : List Nat) (start oa : Nat) :
    Exact (s.step gc (.commit keys start oa)).1 := by
  rcases OState.step_commit gc s keys start oa with e | ⟨_, _, e⟩ <;> rw [e]
  · exact h
  · have hst : ∀ k e, lookup (keys.foldl (stampKey (s.next + keys.length - 1)) s.o.recent) k = some e →
        ∃ b ∈ s.live ++ [⟨keys, s.next + keys.length - 1, start⟩], b.stamp = e.seq ∧ k ∈ b.keys := by
      intro k e he
      rw [lookup_foldl_stampKey] at he
      split at he
      · cases he
        exact ⟨_, List.mem_append_right _ (List.mem_singleton.mpr rfl), (stampOf_seq _ _).symm, ‹_›⟩
      · obtain ⟨b, hb, hbs⟩ := h k e he
        exact ⟨b, List.mem_append_left _ hb, hbs⟩
    -- collecting only removes entries
    rcases publish_cases gc s.o keys s.next keys.length (min oa start) with e | ⟨_, e⟩ <;> rw [e]
    · exact hst
    · exact fun k e he => hst k e ((lookup_filter_seq (foldl_stampKey_nodup hi.nodup _ _) _ k e).mp he).1

theorem exact_run {s : OState} (hi : OInv s) (h : Exact s) (gc : Nat) (evs : List OEv) (hnf : noFail evs) :
    Exact (s.run gc evs) := by
  induction evs generalizing s with
  | nil => exact h
  | cons ev evs ih =>
    cases ev with
    | fail st => exact absurd hnf (by simp [noFail])
    | commit keys start oa =>
      exact ih (oinv_step hi gc _) (exact_commit hi h gc keys start oa) (by simpa [noFail] using hnf)
