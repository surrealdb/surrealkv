import Skv.Lemmas.History
/-!
# `get_at` without an order on the timestamps

`Snapshot::get_at` keeps, over the whole listing, the entry with the greatest timestamp not above `t`
(a later entry wins a tie); the specification keeps the first such entry.  When the timestamps of a key's
versions are pairwise different the two agree whatever the order of the listing — in particular with
back-filled timestamps under the version index.
-/

def TsDistinct (l : List HVer) : Prop := l.Pairwise (fun a b => a.ts ≠ b.ts)

theorem getAtGo_cons {t : Nat} {best : Option HVer} {v : HVer} (hv : v.ts ≤ t) (hb : ∀ b ∈ best, v.ts ≠ b.ts)
    (rest : List HVer) : getAtGo t best (v :: rest) = getAtGo t (specPick best v) rest := by
  cases best with
  | none => simp [getAtGo, specPick, hv]
  | some b =>
    have := hb b rfl
    by_cases hgt : v.ts > b.ts
    · have : v.ts ≥ b.ts := Nat.le_of_lt hgt
      simp only [getAtGo, specPick, hv, hgt, this, decide_true, Bool.and_self, if_true]
    · have : ¬ v.ts ≥ b.ts := by omega
      simp only [getAtGo, specPick, hgt, this, decide_false, Bool.and_false, Bool.false_eq_true, if_false]

theorem specPick_mem {best : Option HVer} {v b : HVer} (h : b ∈ specPick best v) : b = v ∨ b ∈ best := by
  cases best with
  | none => exact .inl (Option.some.inj h).symm
  | some c =>
    simp only [specPick] at h
    split at h
    · exact .inl (Option.some.inj h).symm
    · exact .inr h

theorem getAtGo_eq_fold (t : Nat) : ∀ {l : List HVer}, TsDistinct l → ∀ {best : Option HVer},
    (∀ b ∈ best, ∀ v ∈ l, v.ts ≠ b.ts) →
    getAtGo t best l = (l.filter (fun v => decide (v.ts ≤ t))).foldl specPick best
  | [], _, _, _ => rfl
  | v :: rest, hd, best, hb => by
    have hp := List.pairwise_cons.mp hd
    by_cases hv : v.ts ≤ t
    · simp only [getAtGo_cons hv (fun b h => hb b h v List.mem_cons_self) rest, List.filter_cons, hv,
        decide_true, if_true, List.foldl_cons]
      refine getAtGo_eq_fold t hp.2 fun b h w hw => ?_
      rcases specPick_mem h with rfl | h
      · exact (hp.1 w hw).symm
      · exact hb b h w (List.mem_cons_of_mem _ hw)
    · simp only [getAtGo, List.filter_cons, hv, decide_false, Bool.false_and, Bool.false_eq_true, if_false]
      exact getAtGo_eq_fold t hp.2 fun b h w hw => hb b h w (List.mem_cons_of_mem _ hw)

theorem getAt_eq_spec_distinct {vs : List HVer} (h : TsDistinct vs) (snap t : Nat) :
    getAt snap t vs = specGetAt snap t vs := by
  unfold getAt specGetAt
  have hk := histKeyFwd_eq_spec (o := { tombs := true }) (vs := vs) (.inl rfl) snap
  simp only at hk  -- reduces `{ tombs := true }.tombs`, `.range`, so that `rw [hk]` matches
  rw [hk, getAtGo_eq_fold t (h.sublist (specKey_sublist _ snap vs)) (best := none) nofun]

def TsDesc (l : List HVer) : Prop := l.Pairwise (fun a b => b.ts < a.ts)

theorem getAt_eq_spec (snap t : Nat) (vs : List HVer) (h : TsDesc vs) : getAt snap t vs = specGetAt snap t vs :=
  getAt_eq_spec_distinct (h.imp Nat.ne_of_gt) snap t

theorem insTs_perm (v : HVer) : ∀ (l : List HVer), (insTs v l).Perm (v :: l)
  | [] => .refl _
  | x :: xs => by
    simp only [insTs]
    split
    · exact .refl _
    · exact ((insTs_perm v xs).cons x).trans (.swap v x xs)

theorem sortTs_perm : ∀ (l : List HVer), (sortTs l).Perm l
  | [] => .refl _
  | x :: xs => (insTs_perm x _).trans ((sortTs_perm xs).cons x)

theorem specKey_sets {l : List HVer} (h : AllSets l) (snap : Nat) :
    specKey { tombs := true } snap l = l.filter (fun v => decide (v.seq ≤ snap)) := by
  rw [specKey_eq, hRetainedGo_sets fun v hv => h v (List.mem_filter.mp hv).1]
  exact List.filter_eq_self.mpr fun v _ => rfl

theorem ts_inj_of_distinct {l : List HVer} (h : TsDistinct l) {x y : HVer} (hx : x ∈ l) (hy : y ∈ l) :
    x.ts = y.ts → x = y :=
  List.Pairwise.forall_of_forall_of_flip (R := fun x y => x.ts = y.ts → x = y)
    (fun _ _ _ => rfl) (h.imp fun hne he => absurd he hne) (h.imp fun hne he => absurd he.symm hne) hx hy

theorem specPick_comm {x y : HVer} (h : x.ts = y.ts → x = y) (z : Option HVer) :
    specPick (specPick z x) y = specPick (specPick z y) x := by
  by_cases hxy : x.ts = y.ts
  · rw [h hxy]
  · -- either way the result is whichever of the candidate, `x` and `y` has the greatest timestamp, the candidate
    -- winning its ties; `x` and `y` do not tie
    cases z <;> grind [specPick]
