import Skv.Lemmas.PipeStep
/-!
The structural invariant `PInv` of the commit pipeline (C05, C15, C17), proved per helper of the model and,
for `stepThread`, by cases on `Step`.
-/
open PState

/-- the queue holds consecutive sequence ranges from `a` up to `z` -/
def QChain : Nat → List QB → Nat → Prop
  | a, [], z => a = z
  | a, b :: r, z => b.first = a ∧ 1 ≤ b.count ∧ QChain (a + b.count) r z

theorem qchain_le {q : List QB} {a z : Nat} (h : QChain a q z) : a ≤ z := by
  induction q generalizing a with
  | nil => exact Nat.le_of_eq h
  | cons b r ih => have := ih h.2.2; omega

theorem qchain_first_ge {q : List QB} {a z : Nat} (h : QChain a q z) : ∀ qb ∈ q, a ≤ qb.first := by
  induction q generalizing a with
  | nil => exact fun _ hq => nomatch hq
  | cons b r ih =>
    intro qb hq
    obtain ⟨h1, h2, h3⟩ := h
    rcases List.mem_cons.mp hq with rfl | hq
    · omega
    · have := ih h3 qb hq; omega

theorem qchain_append {q : List QB} {a z c : Nat} (h : QChain a q z) (hc : 1 ≤ c) :
    QChain a (q ++ [(⟨z, c, false⟩ : QB)]) (z + c) := by
  induction q generalizing a with
  | nil => cases h; exact ⟨rfl, hc, rfl⟩
  | cons b r ih => exact ⟨h.1, h.2.1, ih h.2.2⟩

theorem qchain_map_applied (f : Nat) {q : List QB} {a z : Nat} (h : QChain a q z) :
    QChain a (q.map (fun b => if b.first == f then { b with applied := true } else b)) z := by
  induction q generalizing a with
  | nil => exact h
  | cons b r ih =>
    simp only [List.map_cons, QChain]
    split <;> exact ⟨h.1, h.2.1, ih h.2.2⟩

theorem qchain_pairwise {q : List QB} {a z : Nat} (h : QChain a q z) : q.Pairwise (fun x y => x.first < y.first) := by
  induction q generalizing a with
  | nil => exact .nil
  | cons b r ih =>
    obtain ⟨h1, h2, h3⟩ := h
    exact .cons (fun y hy => by have := qchain_first_ge h3 y hy; omega) (ih h3)

/-! Entries of the batch table are `(first, count, failed)`.  `inB`: the range is allocated; `failedB`: its
commit failed; `bmem`: all `c` sequence numbers from `f` are in the memtable. -/

def bmem (s : PState) (f c : Nat) : Prop := ∀ j, j < c → f + j ∈ s.mem
def inB (s : PState) (f c : Nat) : Prop := ∃ fl, (f, c, fl) ∈ s.batches
def failedB (s : PState) (f : Nat) : Prop := ∃ c, (f, c, true) ∈ s.batches

/-- what a committer at a yield point of `commit()` / `publish()` knows about the batch in its hands -/
def PcOk (s : PState) : Pc → Prop
  | .applying f c j => inB s f c ∧ j < c ∧ (∀ j', j' < j → f + j' ∈ s.mem)
  | .afterApply f c failed => inB s f c ∧ (if failed then failedB s f else bmem s f c)
  | .pubDequeued b _ _ => inB s b.first b.count ∧ b.last < s.logSeq ∧ ∀ qb ∈ s.queue, b.last < qb.first
  | .pubVisible b _ _ => inB s b.first b.count ∧ b.last ≤ s.visible
  | _ => True

/-- The queue holds consecutive sequence ranges above the horizon, up to `log_seq_num`; the batch table is newest
first with disjoint non-empty ranges (`f + c - 1` is a batch's last number); every batch is queued, failed or
fully in the memtable; the horizon is never inside a batch; an `ok` completion lies below the horizon. -/
structure PInv (s : PState) : Prop where
  chain : ∃ a, s.visible < a ∧ QChain a s.queue s.logSeq
  bok : ∀ f c fl, (f, c, fl) ∈ s.batches → 1 ≤ c ∧ f + c ≤ s.logSeq
  bsorted : s.batches.Pairwise (fun n o => o.1 + o.2.1 ≤ n.1)
  qin : ∀ qb ∈ s.queue, inB s qb.first qb.count
  qapplied : ∀ qb ∈ s.queue, qb.applied = true → failedB s qb.first ∨ bmem s qb.first qb.count
  settled : ∀ f c fl, (f, c, fl) ∈ s.batches → (∃ qb ∈ s.queue, qb.first = f) ∨ fl = true ∨ bmem s f c
  noInside : ∀ f c fl, (f, c, fl) ∈ s.batches → s.visible < f ∨ f + c - 1 ≤ s.visible
  pcs : ∀ (i : Nat) (t : Thread), s.threads[i]? = some t → PcOk s t.pc
  compl : ∀ f, (f, CRes.ok) ∈ s.completed → ∃ c fl, (f, c, fl) ∈ s.batches ∧ f + c - 1 ≤ s.visible

theorem PInv.queue_above {s : PState} (h : PInv s) : ∀ qb ∈ s.queue, s.visible < qb.first := fun qb hqb =>
  have ⟨_, hva, hch⟩ := h.chain
  Nat.lt_of_lt_of_le hva (qchain_first_ge hch qb hqb)

theorem PInv.atomic {s : PState} (h : PInv s) (f cnt : Nat) (hin : (f, cnt, false) ∈ s.batches)
    (hle : f + cnt - 1 ≤ s.visible) : bmem s f cnt := by
  rcases h.settled f cnt false hin with ⟨qb, hqb, hqf⟩ | hfl | hb
  · have := h.queue_above qb hqb
    have := (h.bok f cnt false hin).1
    omega
  · cases hfl
  · exact hb

theorem PInv.ok_visible {s : PState} (h : PInv s) (f : Nat) (hres : s.completedRes f = some .ok) :
    ∃ cnt fl, (f, cnt, fl) ∈ s.batches ∧ f + cnt - 1 ≤ s.visible :=
  h.compl f (completedRes_eq_some hres)

theorem PInv.batch_eq {s : PState} (h : PInv s) {f c c' : Nat} {fl fl' : Bool} (hx : (f, c, fl) ∈ s.batches)
    (hy : (f, c', fl') ∈ s.batches) : c = c' ∧ fl = fl' := by
  have := (h.bok _ _ _ hx).1
  have := (h.bok _ _ _ hy).1
  rcases h.bsorted.eq_or_rel hx hy with e | hle | hle
  · cases e; exact ⟨rfl, rfl⟩
  · simp only at hle; omega
  · simp only at hle; omega

theorem queue_length_le {s : PState} (hinv : PInv s) {l : List Own} (hl : ∀ qb ∈ s.queue, Own.bat qb.first ∈ l) :
    s.queue.length ≤ l.length := by
  obtain ⟨a, _, hch⟩ := hinv.chain
  have hnd : (s.queue.map fun qb => Own.bat qb.first).Nodup :=
    List.pairwise_map.mpr ((qchain_pairwise hch).imp fun h e => by injection e with e; omega)
  have := hnd.length_le_of_subset fun x hx => by
    obtain ⟨qb, hqb, rfl⟩ := List.mem_map.mp hx
    exact hl qb hqb
  rwa [List.length_map] at this

/-- what may change between two states without hurting anybody's `PcOk` -/
structure Grows (s s' : PState) : Prop where
  mem : ∀ x, x ∈ s.mem → x ∈ s'.mem
  inb : ∀ f c, inB s f c → inB s' f c
  failed : ∀ f, failedB s f → failedB s' f
  vis : s.visible ≤ s'.visible
  ls : s.logSeq ≤ s'.logSeq
  q : ∀ qb' ∈ s'.queue, (∃ qb ∈ s.queue, qb.first = qb'.first) ∨ s.logSeq ≤ qb'.first

theorem pcOk_mono {s s' : PState} (g : Grows s s') {pc : Pc} (h : PcOk s pc) : PcOk s' pc := by
  cases pc with
  | applying f c j => exact ⟨g.inb _ _ h.1, h.2.1, fun j' hj => g.mem _ (h.2.2 j' hj)⟩
  | afterApply f c failed =>
    refine ⟨g.inb _ _ h.1, ?_⟩
    have h2 := h.2
    cases failed with
    | true => simp only [if_true] at h2 ⊢; exact g.failed _ h2
    | false => simp only [Bool.false_eq_true, if_false] at h2 ⊢; exact fun j hj => g.mem _ (h2 j hj)
  | pubDequeued b _ _ =>
    refine ⟨g.inb _ _ h.1, Nat.lt_of_lt_of_le h.2.1 g.ls, ?_⟩
    intro qb' hq
    rcases g.q qb' hq with ⟨qb, hqb, he⟩ | hl
    · rw [← he]; exact h.2.2 qb hqb
    · exact Nat.lt_of_lt_of_le h.2.1 hl
  | pubVisible b _ _ => exact ⟨g.inb _ _ h.1, Nat.le_trans h.2 g.vis⟩
  | _ => trivial

theorem pcs_set {s s' : PState} {i : Nat} {t' : Thread} (g : Grows s s')
    (hth : s'.threads = s.threads.set i t')
    (hold : ∀ (j : Nat) (t : Thread), s.threads[j]? = some t → PcOk s t.pc)
    (hnew : PcOk s' t'.pc) :
    ∀ (j : Nat) (t : Thread), s'.threads[j]? = some t → PcOk s' t.pc := by
  intro j t hj
  rw [hth] at hj
  rcases List.getElem?_set_cases hj with ⟨_, rfl⟩ | ⟨_, hj⟩
  · exact hnew
  · exact pcOk_mono g (hold j t hj)

theorem pcs_same {s s' : PState} (g : Grows s s') (hth : s'.threads = s.threads)
    (hold : ∀ (j : Nat) (t : Thread), s.threads[j]? = some t → PcOk s t.pc) :
    ∀ (j : Nat) (t : Thread), s'.threads[j]? = some t → PcOk s' t.pc := by
  intro j t hj; rw [hth] at hj; exact pcOk_mono g (hold j t hj)

/-- for updates of threads and completions only -/
theorem pinv_core {s s' : PState} (h : PInv s)
    (hv : s'.visible = s.visible) (hq : s'.queue = s.queue) (hl : s'.logSeq = s.logSeq)
    (hb : s'.batches = s.batches) (hm : s'.mem = s.mem)
    (hp : ∀ (i : Nat) (t : Thread), s'.threads[i]? = some t → PcOk s' t.pc)
    (hc : ∀ f, (f, CRes.ok) ∈ s'.completed → ∃ c fl, (f, c, fl) ∈ s.batches ∧ f + c - 1 ≤ s.visible) : PInv s' := by
  obtain ⟨h1, h2, h3, h4, h5, h6, h7, _, _⟩ := h
  refine ⟨?_, ?_, ?_, ?_, ?_, ?_, ?_, hp, ?_⟩
  · rw [hv, hq, hl]; exact h1
  · rw [hb, hl]; exact h2
  · rw [hb]; exact h3
  · intro qb hqb; rw [hq] at hqb; unfold inB; rw [hb]; exact h4 qb hqb
  · intro qb hqb ha; rw [hq] at hqb; unfold failedB bmem; rw [hb, hm]; exact h5 qb hqb ha
  · intro f c fl hf; rw [hb] at hf; unfold bmem; rw [hq, hm]; exact h6 f c fl hf
  · intro f c fl hf; rw [hb] at hf; rw [hv]; exact h7 f c fl hf
  · rw [hb, hv]; exact hc

theorem grows_core_same {s s' : PState} (hv : s'.visible = s.visible) (hb : s'.batches = s.batches)
    (hm : s'.mem = s.mem) (hl : s'.logSeq = s.logSeq) (hq : ∀ qb ∈ s'.queue, qb ∈ s.queue) : Grows s s' :=
  ⟨fun x h => by rw [hm]; exact h, fun f c h => by unfold inB at *; rw [hb]; exact h,
   fun f h => by unfold failedB at *; rw [hb]; exact h, by rw [hv]; exact Nat.le_refl _,
   by rw [hl]; exact Nat.le_refl _, fun qb h => Or.inl ⟨qb, hq qb h, rfl⟩⟩

theorem grows_refl (s : PState) : Grows s s :=
  grows_core_same rfl rfl rfl rfl fun _ h => h

/-- `s'` agrees with `s` on everything `PInv` reads -/
theorem pinv_frame {s s' : PState} (h : PInv s)
    (hv : s'.visible = s.visible) (hq : s'.queue = s.queue) (hl : s'.logSeq = s.logSeq)
    (hb : s'.batches = s.batches) (hm : s'.mem = s.mem) (hc : s'.completed = s.completed)
    (hth : s'.threads = s.threads) : PInv s' :=
  pinv_core h hv hq hl hb hm (pcs_same (grows_core_same hv hb hm hl fun _ h => hq ▸ h) hth h.pcs) (hc ▸ h.compl)

theorem pinv_setThread {s : PState} (h : PInv s) (i : Nat) (t' : Thread) (hpc : PcOk s t'.pc) :
    PInv (s.setThread i t') :=
  have g : Grows s (s.setThread i t') := grows_core_same rfl rfl rfl rfl fun _ h => h
  pinv_core h rfl rfl rfl rfl rfl (pcs_set g rfl h.pcs (pcOk_mono g hpc)) h.compl

theorem pinv_finish {s : PState} (h : PInv s) (i : Nat) (t : Thread) (r : CRes) (fo : Option Nat) :
    PInv (s.finish i t r fo) :=
  pinv_frame (pinv_setThread h i { t with pc := .ready, results := r :: t.results } trivial)
    (by simp) (by simp) (by simp) (by simp) (by simp) (by simp) (by simp)

theorem pinv_dropBatch {s : PState} (h : PInv s) (f : Nat) : PInv (s.dropBatch f) :=
  pinv_frame h (by simp) (by simp) (by simp) (by simp) (by simp) (by simp) (by simp)

theorem pinv_complete {s : PState} (h : PInv s) (f : Nat) (r : CRes)
    (hf : r = .ok → ∃ c fl, (f, c, fl) ∈ s.batches ∧ f + c - 1 ≤ s.visible) : PInv (s.complete f r) := by
  have g : Grows s (s.complete f r) :=
    grows_core_same (by simp) (by simp) (by simp) (by simp) (by simp)
  refine pinv_core h (by simp) (by simp) (by simp) (by simp) (by simp) (pcs_same g (by simp) h.pcs)
    fun f' hf' => ?_
  rcases mem_complete hf' with hf' | hf'
  · exact h.compl f' hf'
  · cases hf'; exact hf rfl

theorem mem_markFailed {s : PState} {f c : Nat} {fl : Bool} (h : (f, c, fl) ∈ s.batches) :
    (f, c, true) ∈ (s.markFailed f).batches :=
  List.mem_map.mpr ⟨(f, c, fl), h, by simp⟩

theorem mem_markApplied {s : PState} {f : Nat} {qb' : QB} (hq : qb' ∈ (s.markApplied f).queue) :
    ∃ qb ∈ s.queue, qb'.first = qb.first ∧ qb'.count = qb.count ∧ (qb' = qb ∨ qb.first = f) := by
  obtain ⟨qb, hqb, rfl⟩ := List.mem_map.mp hq
  refine ⟨qb, hqb, ?_⟩
  split
  · exact ⟨rfl, rfl, .inr (beq_iff_eq.mp ‹_›)⟩
  · exact ⟨rfl, rfl, .inl rfl⟩

theorem pinv_markFailed {s : PState} (h : PInv s) (f : Nat) : PInv (s.markFailed f) := by
  -- an entry of the new table is an old one, with the same range and its flag kept or raised
  have hmem : ∀ {f' c fl}, (f', c, fl) ∈ (s.markFailed f).batches →
      ∃ fl0, (f', c, fl0) ∈ s.batches ∧ (fl = fl0 ∨ fl = true) := by
    intro f' c fl hx
    obtain ⟨⟨y1, y2, y3⟩, hy, e⟩ := List.mem_map.mp hx
    dsimp only at e
    split at e <;> cases e
    · exact ⟨y3, hy, .inr rfl⟩
    · exact ⟨fl, hy, .inl rfl⟩
  have hfwd : ∀ {f' c fl}, (f', c, fl) ∈ s.batches →
      ∃ fl', (f', c, fl') ∈ (s.markFailed f).batches ∧ (fl = true → fl' = true) := by
    intro f' c fl hy
    by_cases hc : f' = f
    · subst hc; exact ⟨true, mem_markFailed hy, fun _ => rfl⟩
    · exact ⟨fl, List.mem_map.mpr ⟨_, hy, if_neg (by simpa using hc)⟩, id⟩
  have g : Grows s (s.markFailed f) :=
    ⟨fun x hx => hx, fun f' c ⟨fl, hin⟩ => (hfwd hin).imp fun _ h => h.1,
      fun f' ⟨c, hin⟩ => have ⟨fl', h1, h2⟩ := hfwd hin; ⟨c, h2 rfl ▸ h1⟩,
      Nat.le_refl _, Nat.le_refl _, fun qb hq => .inl ⟨qb, hq, rfl⟩⟩
  obtain ⟨h1, h2, h3, h4, h5, h6, h7, h8, h9⟩ := h
  refine ⟨h1, fun f' c fl hf => ?_, ?_, fun qb hqb => g.inb _ _ (h4 qb hqb),
    fun qb hqb ha => (h5 qb hqb ha).imp_left (g.failed _), fun f' c fl hf => ?_, fun f' c fl hf => ?_,
    pcs_same g rfl h8, fun f' hf => ?_⟩
  · obtain ⟨fl0, hy, _⟩ := hmem hf
    exact h2 _ _ _ hy
  · refine List.pairwise_map.mpr (h3.imp fun {a b} hab => ?_)
    split <;> split <;> exact hab
  · obtain ⟨fl0, hy, e | e⟩ := hmem hf
    · exact e ▸ h6 _ _ _ hy
    · exact .inr (.inl e)
  · obtain ⟨fl0, hy, _⟩ := hmem hf
    exact h7 _ _ _ hy
  · obtain ⟨c, fl, hin, hle⟩ := h9 f' hf
    obtain ⟨fl', h1', _⟩ := hfwd hin
    exact ⟨c, fl', h1', hle⟩

theorem pinv_addMem {s : PState} (h : PInv s) (x : Nat) : PInv { s with mem := x :: s.mem } := by
  have g : Grows s { s with mem := x :: s.mem } :=
    ⟨fun y hy => List.mem_cons_of_mem _ hy, fun _ _ h => h, fun _ h => h, Nat.le_refl _, Nat.le_refl _,
     fun qb hq => Or.inl ⟨qb, hq, rfl⟩⟩
  obtain ⟨h1, h2, h3, h4, h5, h6, h7, h8, h9⟩ := h
  refine ⟨h1, h2, h3, h4, ?_, ?_, h7, pcs_same g rfl h8, h9⟩
  · exact fun qb hqb ha => (h5 qb hqb ha).imp_right fun hb j hj => List.mem_cons_of_mem _ (hb j hj)
  · exact fun f c fl hf => (h6 f c fl hf).imp_right (.imp_right fun hb j hj => List.mem_cons_of_mem _ (hb j hj))

theorem pinv_markApplied {s : PState} (h : PInv s) (f : Nat)
    (hf : failedB s f ∨ ∃ c, inB s f c ∧ bmem s f c) : PInv (s.markApplied f) := by
  have g : Grows s (s.markApplied f) :=
    ⟨fun _ h => h, fun _ _ h => h, fun _ h => h, Nat.le_refl _, Nat.le_refl _,
     fun qb' hq => by obtain ⟨qb, hqb, e, _⟩ := mem_markApplied hq; exact Or.inl ⟨qb, hqb, e.symm⟩⟩
  obtain ⟨h1, h2, h3, h4, h5, h6, h7, h8, h9⟩ := h
  refine ⟨?_, h2, h3, ?_, ?_, ?_, h7, pcs_same g rfl h8, h9⟩
  · obtain ⟨a, ha, hch⟩ := h1
    exact ⟨a, ha, qchain_map_applied f hch⟩
  · intro qb' hq
    obtain ⟨qb, hqb, e1, e2, _⟩ := mem_markApplied hq
    rw [e1, e2]; exact h4 qb hqb
  · intro qb' hq ha
    obtain ⟨qb, hqb, e1, e2, e3⟩ := mem_markApplied hq
    rw [e1, e2]
    rcases e3 with e3 | e3
    · subst e3; exact h5 qb' hqb ha
    · rcases hf with hf | ⟨c, hin, hb⟩
      · left; rw [e3]; exact hf
      · obtain ⟨fl1, hin1⟩ := hin
        obtain ⟨fl2, hin2⟩ := h4 qb hqb
        subst e3
        exact .inr ((PInv.batch_eq ⟨h1, h2, h3, h4, h5, h6, h7, h8, h9⟩ hin1 hin2).1 ▸ hb)
  · intro f' c fl hf'
    rcases h6 f' c fl hf' with ⟨qb, hqb, e⟩ | hr
    · left
      simp only [markApplied_queue, List.mem_map]
      refine ⟨_, ⟨qb, hqb, rfl⟩, ?_⟩
      split <;> exact e
    · right; exact hr

/-- the term is for the other order of the two updates; they touch different fields, so it has this type
by unfolding -/
theorem pinv_markApplied_failed {s : PState} (h : PInv s) {f c : Nat} {fl : Bool} (hin : (f, c, fl) ∈ s.batches) :
    PInv ((s.markApplied f).markFailed f) :=
  pinv_markApplied (pinv_markFailed h f) f (.inl ⟨c, mem_markFailed hin⟩)

theorem pinv_enqueue {s : PState} (h : PInv s) {c : Nat} (hc : 1 ≤ c) {o : Oracle} {ow : List Own} :
    PInv (enq s c o ow) := by
  have g : Grows s (enq s c o ow) := by
    refine ⟨fun _ h => h, ?_, ?_, Nat.le_refl _, Nat.le_add_right _ _, ?_⟩
    · intro f c' ⟨fl, hin⟩; exact ⟨fl, List.mem_cons_of_mem _ hin⟩
    · intro f ⟨c', hin⟩; exact ⟨c', List.mem_cons_of_mem _ hin⟩
    · intro qb' hq
      rcases List.mem_append.mp hq with hq | hq
      · exact Or.inl ⟨qb', hq, rfl⟩
      · cases List.mem_singleton.mp hq; exact Or.inr (Nat.le_refl _)
  obtain ⟨h1, h2, h3, h4, h5, h6, h7, h8, h9⟩ := h
  obtain ⟨a, hva, hch⟩ := h1
  have hale := qchain_le hch
  refine ⟨⟨a, hva, qchain_append hch hc⟩, ?_, ?_, ?_, ?_, ?_, ?_, pcs_same g rfl h8, ?_⟩
  · intro f c' fl hf
    rcases List.mem_cons.mp hf with hf | hf
    · cases hf; exact ⟨hc, Nat.le_refl _⟩
    · have := h2 f c' fl hf; exact ⟨this.1, Nat.le_trans this.2 (Nat.le_add_right ..)⟩
  · refine List.pairwise_cons.mpr ⟨?_, h3⟩
    intro o' ho; exact (h2 o'.1 o'.2.1 o'.2.2 ho).2
  · intro qb hq
    rcases List.mem_append.mp hq with hq | hq
    · exact g.inb _ _ (h4 qb hq)
    · cases List.mem_singleton.mp hq; exact ⟨false, List.mem_cons_self ..⟩
  · intro qb hq ha
    rcases List.mem_append.mp hq with hq | hq
    · exact (h5 qb hq ha).imp_left (g.failed _)
    · cases List.mem_singleton.mp hq; cases ha
  · intro f c' fl hf
    rcases List.mem_cons.mp hf with hf | hf
    · cases hf; exact .inl ⟨_, List.mem_append_right _ (List.mem_singleton.mpr rfl), rfl⟩
    · exact (h6 f c' fl hf).imp_left fun ⟨qb, hqb, e⟩ => ⟨qb, List.mem_append_left _ hqb, e⟩
  · intro f c' fl hf
    rcases List.mem_cons.mp hf with hf | hf
    · cases hf; exact .inl (Nat.lt_of_lt_of_le hva hale)
    · exact h7 f c' fl hf
  · intro f hf
    obtain ⟨c', fl, hin, hle⟩ := h9 f hf
    exact ⟨c', fl, List.mem_cons_of_mem _ hin, hle⟩

theorem pinv_setVisible {s : PState} (h : PInv s) {b : QB} (hin : inB s b.first b.count)
    (hls : b.last < s.logSeq) (hq : ∀ qb ∈ s.queue, b.last < qb.first) :
    PInv { s with visible := max s.visible b.last } := by
  have g : Grows s { s with visible := max s.visible b.last } :=
    ⟨fun _ h => h, fun _ _ h => h, fun _ h => h, Nat.le_max_left _ _, Nat.le_refl _,
     fun qb hq => Or.inl ⟨qb, hq, rfl⟩⟩
  obtain ⟨h1, h2, h3, h4, h5, h6, h7, h8, h9⟩ := h
  obtain ⟨a, hva, hch⟩ := h1
  obtain ⟨flb, hinb⟩ := hin
  have hcb := (h2 _ _ _ hinb).1
  have hba : b.last < a := by
    cases hqq : s.queue with
    | nil => rw [hqq] at hch; exact hch ▸ hls
    | cons qb r =>
      rw [hqq] at hch
      exact hch.1 ▸ hq qb (by rw [hqq]; exact List.mem_cons_self ..)
  refine ⟨⟨a, Nat.max_lt.mpr ⟨hva, hba⟩, hch⟩, h2, h3, h4, h5, h6, ?_, pcs_same g rfl h8, ?_⟩
  · intro f c fl hf
    show max s.visible b.last < f ∨ f + c - 1 ≤ max s.visible b.last
    have hcf := (h2 _ _ _ hf).1
    -- the published batch and `(f, c)` are the same or do not overlap
    have tri : f + c - 1 ≤ b.last ∨ b.last < f := by
      have hb : b.last + 1 = b.first + b.count := Nat.sub_add_cancel (Nat.le_trans hcb (Nat.le_add_left ..))
      rcases h3.eq_or_rel hf hinb with he | hle | hle
      · cases he; exact .inl (Nat.le_refl _)
      · exact .inr (by simp only at hle; omega)
      · exact .inl (Nat.le_trans (Nat.sub_le ..) (by simp only at hle; omega))
    rcases h7 f c fl hf with hlt | hge
    · rcases tri with h1 | h1
      · exact .inr (Nat.le_trans h1 (Nat.le_max_right ..))
      · exact .inl (Nat.max_lt.mpr ⟨hlt, h1⟩)
    · exact .inr (Nat.le_trans hge (Nat.le_max_left ..))
  · intro f hf
    obtain ⟨c, fl, hin', hle⟩ := h9 f hf
    exact ⟨c, fl, hin', Nat.le_trans hle (Nat.le_max_left _ _)⟩

theorem PubTop.pinv {s s' : PState} {i f : Nat} {t : Thread} {k : FK} (hs : PubTop s i t f k s') (h : PInv s) :
    PInv s' := by
  cases hs with
  | leaveWal => exact pinv_finish h i t .errWal _
  | leave => exact pinv_setThread h i _ trivial
  | dequeue b rest hq ha =>
    obtain ⟨a, hva, hch⟩ := h.chain
    rw [hq] at hch
    obtain ⟨hb1, hb2, hb3⟩ := hch
    have hbq : b ∈ s.queue := hq ▸ List.mem_cons_self ..
    have hrest : ∀ qb ∈ rest, qb ∈ s.queue := fun qb hqb => hq ▸ List.mem_cons_of_mem _ hqb
    refine ⟨⟨a + b.count, Nat.lt_of_lt_of_le hva (Nat.le_add_right ..), hb3⟩, h.bok, h.bsorted,
      fun qb hqb => h.qin qb (hrest qb hqb), fun qb hqb => h.qapplied qb (hrest qb hqb), fun f' c' fl hf => ?_,
      h.noInside, pcs_set (grows_core_same (s := s) rfl rfl rfl rfl hrest) rfl h.pcs ?_, h.compl⟩
    · show (∃ qb ∈ rest, qb.first = f') ∨ fl = true ∨ bmem s f' c'
      rcases h.settled f' c' fl hf with ⟨qb, hqb, hqf⟩ | hs
      · rcases List.mem_cons.mp (hq ▸ hqb) with rfl | hqb
        · -- the dequeued batch itself: it was applied
          subst hqf
          rcases h.qapplied qb hbq ha with ⟨c2, hfail⟩ | hbm
          · exact .inr (.inl (h.batch_eq hf hfail).2)
          · obtain ⟨fl2, hin⟩ := h.qin qb hbq
            exact .inr (.inr ((h.batch_eq hf hin).1 ▸ hbm))
        · exact .inl ⟨qb, hqb, hqf⟩
      · exact .inr hs
    · refine ⟨h.qin b hbq, ?_, fun qb hqb => ?_⟩
      · have := qchain_le hb3
        show b.first + b.count - 1 < s.logSeq; omega
      · have := qchain_first_ge hb3 qb hqb
        show b.first + b.count - 1 < qb.first; omega

theorem applied_prefix_succ {s : PState} {f j : Nat} (hpre : ∀ j', j' < j → f + j' ∈ s.mem) :
    ∀ j', j' < j + 1 → f + j' ∈ (f + j) :: s.mem := fun j' hj' => by
  rcases Nat.lt_succ_iff_lt_or_eq.mp hj' with hlt | rfl
  · exact List.mem_cons_of_mem _ (hpre j' hlt)
  · exact List.mem_cons_self ..

theorem Step.pinv {s s' : PState} {i : Nat} {t : Thread} (hs : Step s i t s') (h : PInv s) (hr : ReqInv s)
    (ht : s.threads[i]? = some t) : PInv s' := by
  have hpcok := h.pcs i t ht
  cases hs with
  | stay => exact h
  | retEmpty | wait => exact pinv_setThread h i _ trivial
  | acquire st =>
    exact pinv_frame (pinv_setThread h i { t with pc := .havePermit st } trivial) rfl rfl rfl rfl rfl rfl rfl
  | refuse | returnErr | returnRes => exact pinv_finish h i t _ _
  | overflow => exact pinv_frame h rfl rfl rfl rfl rfl rfl rfl
  | enqueue st hpc =>
    have hc : 1 ≤ t.req.keys.length := hr i t ht st hpc
    exact pinv_setThread (pinv_enqueue h hc) i _ ⟨⟨false, List.mem_cons_self ..⟩, hc, fun _ _ => by omega⟩
  | enqueueWal st hpc =>
    exact pinv_setThread (pinv_markApplied_failed (pinv_complete (pinv_enqueue h (hr i t ht st hpc)) s.logSeq .errWal nofun)
      (fl := false)
      (by rw [complete_batches]; exact List.mem_cons_self ..)) i _ trivial
  | applyFail f c j hpc =>
    rw [hpc] at hpcok
    obtain ⟨fl, hfl⟩ := hpcok.1
    exact pinv_setThread (pinv_markFailed h f) i _ ⟨⟨true, mem_markFailed hfl⟩, ⟨c, mem_markFailed hfl⟩⟩
  | applyNext f c j hpc _ hj =>
    rw [hpc] at hpcok
    exact pinv_setThread (pinv_addMem h (f + j)) i _ ⟨hpcok.1, hj, applied_prefix_succ hpcok.2.2⟩
  | applyLast f c j hpc _ hj =>
    rw [hpc] at hpcok
    exact pinv_setThread (pinv_addMem h (f + j)) i _
      ⟨hpcok.1, fun j' hj' => applied_prefix_succ hpcok.2.2 j' (Nat.lt_of_lt_of_le hj' (Nat.not_lt.mp hj))⟩
  | markOk f c hpc =>
    rw [hpc] at hpcok
    exact pinv_setThread (pinv_markApplied h f (.inr ⟨c, hpcok.1, hpcok.2⟩)) i _ trivial
  | markErr f c hpc =>
    rw [hpc] at hpcok
    obtain ⟨c', hc'⟩ := hpcok.2
    have h1 : PInv { s with oracle := s.oracle.rollback t.req.keys (f + c - 1) } :=
      pinv_frame h rfl rfl rfl rfl rfl rfl rfl
    have h2 := pinv_complete h1 f .errApply nofun
    exact pinv_setThread (pinv_markApplied h2 f (.inl ⟨c', by simpa using hc'⟩)) i _ trivial
  | pubTop f k => exact (publishTop_spec ..).pinv h
  | setVisible b f k hpc =>
    rw [hpc] at hpcok
    obtain ⟨hin, hls, hq⟩ := hpcok
    exact pinv_setThread (pinv_setVisible h hin hls hq) i { t with pc := .pubVisible b f k }
      ⟨hin, Nat.le_max_right _ _⟩
  | publish b f k hpc =>
    rw [hpc] at hpcok
    obtain ⟨⟨fl, hin⟩, hle⟩ := hpcok
    exact (publishTop_spec ..).pinv
      (pinv_dropBatch (pinv_complete h b.first .ok fun _ => ⟨b.count, fl, hin, hle⟩) b.first)

theorem pinv_step {s : PState} (h : PInv s) (hr : ReqInv s) (i : Nat) : PInv (s.stepThread i) := by
  rcases step_cases s i with e | ⟨t, ht, hs⟩
  · rw [e]; exact h
  · exact hs.pinv h hr ht

theorem pinv_begin {s : PState} (h : PInv s) (i : Nat) (req : CommitReq) : PInv (s.begin i req) := by
  rcases begin_cases s i req with e | ⟨t, _, _, e⟩ <;> rw [e]
  · exact h
  · exact pinv_setThread h i _ trivial

theorem pinv_initWith (n gc p c : Nat) : PInv (PState.initWith n gc p c) := by
  refine ⟨⟨1, Nat.zero_lt_one, rfl⟩, ?_, .nil, ?_, ?_, ?_, ?_, ?_, ?_⟩
  · exact fun f c fl h => nomatch h
  · exact fun qb h => nomatch h
  · exact fun qb h => nomatch h
  · exact fun f c fl h => nomatch h
  · exact fun f c fl h => nomatch h
  · intro i t h; rw [init_thread h]; trivial
  · exact fun f h => nomatch h
