import Skv.Lemmas.TxnBatch
/-!
Simulation between `Txn.step` and `STxn.step` (C08): relation `Sim`, preserved by every
operation with equal outputs, hence along every program from any related pair of states.
-/
open Txn

/-- every key bound in the write set has at least one entry (`retain(!is_empty)`) -/
def WsNonempty (ws : List (Key × List Entry)) : Prop := ∀ p ∈ ws, p.2 ≠ []

structure Sim (t : Txn) (s : STxn) : Prop where
  mode : t.mode = s.mode
  closed : t.closed = s.closed
  inv : TxInv t s.spec
  ne : WsNonempty t.ws

theorem sim_start (m : Mode) : Sim (Txn.start m) (STxn.start m) :=
  ⟨rfl, rfl, inv_empty, fun _ h => nomatch h⟩

theorem upsert_nonempty {ws : List (Key × List Entry)} {k : Key} {e : Entry}
    (h : WsNonempty ws) : WsNonempty (upsert ws k (pushRule e)) := by
  induction ws with
  | nil => exact fun p hp => List.mem_singleton.mp hp ▸ pushRule_ne e none
  | cons q rest ih =>
    have ⟨hq, hr⟩ := List.forall_mem_cons.mp h
    rw [upsert]
    split
    · exact List.forall_mem_cons.mpr ⟨pushRule_ne e (some q.2), hr⟩
    · exact List.forall_mem_cons.mpr ⟨hq, ih hr⟩

theorem ws_isEmpty_eq_log_isEmpty {t : Txn} {s : Spec} (h : TxInv t s) (hne : WsNonempty t.ws) :
    t.ws.isEmpty = s.log.isEmpty := by
  cases hws : t.ws with
  | nil =>
    cases hl : s.log with
    | nil => rfl
    | cons w l =>
      -- the head write's key reads `some` in the spec and `none` in the empty write set
      have := inv_last h w.key
      rw [Spec.get_eq, specUpTo, show s.frames.flatten = w :: l from hl, hws] at this
      simp [entriesOf_nil] at this
  | cons p ws =>
    -- the first bound key has an entry and reads `some`, which an empty log cannot match
    have hp : p.2 ≠ [] := hne p (hws ▸ List.mem_cons_self)
    have := inv_last h p.1
    rw [hws, entriesOf_cons, if_pos rfl] at this
    cases hl : s.log with
    | nil =>
      rw [Spec.get_eq, specUpTo, show s.frames.flatten = [] from hl] at this
      simp [hp] at this
    | cons w l => rfl

theorem dropLevel_nonempty {n : Nat} {ws : List (Key × List Entry)} : WsNonempty (dropLevel n ws) :=
  fun p hp h => by simpa [h] using (List.mem_filter.mp hp).2

theorem batch_isEmpty {t : Txn} (hne : WsNonempty t.ws) : t.batch.isEmpty = t.ws.isEmpty := by
  rw [Txn.batch, (foldr_insBySeq_perm _).isEmpty_eq]
  cases hws : t.ws with
  | nil => rfl
  | cons p ws =>
    obtain ⟨e, es, hp⟩ := List.exists_cons_of_ne_nil (hne p (hws ▸ List.mem_cons_self))
    rw [List.flatMap_cons, hp]
    rfl

/-- the `get` step in the shape of `STxn.step` -/
theorem inv_step_get {t : Txn} {s : Spec} (h : TxInv t s) (snap : Key → Option Val) (k : Key) :
    t.step snap (.get k) = if t.closed then (t, .err .closed) else if k.isEmpty then (t, .err .emptyKey)
      else if t.mode == .writeOnly then (t, .err .writeOnly) else (t, .val (s.getFull snap k)) := by
  rw [Txn.step, Txn.getFull, Txn.get_eq, inv_last h, Spec.getFull]
  cases t.closed
  case true => rfl
  cases k.isEmpty
  case true => rfl
  cases t.mode == .writeOnly
  case true => rfl
  cases s.get k <;> rfl

/-- a model operation whose answer `f` turns into an output, against a step of the specification -/
def StepSim {ε : Type} (f : ε → TOut) (x : Txn × ε) (y : STxn × TOut) : Prop :=
  f x.2 = y.2 ∧ Sim x.1 y.1

theorem sim_step {t : Txn} {s : STxn} (h : Sim t s) (snap : Key → Option Val) (op : TOp) :
    (t.step snap op).2 = (s.step snap op).2 ∧ Sim (t.step snap op).1 (s.step snap op).1 := by
  obtain ⟨sm, sc, ss⟩ := s
  obtain ⟨hm, hc, hi, hne⟩ := h
  dsimp only at hm hc hi
  subst hm hc
  have h : Sim t ⟨t.mode, t.closed, ss⟩ := ⟨rfl, rfl, hi, hne⟩
  cases op with
  | write k v kind ts =>
    have h' : Sim { t with writeSeqno := t.writeSeqno + 1 } ⟨t.mode, t.closed, ss⟩ :=
      ⟨rfl, rfl, inv_congr hi rfl rfl, hne⟩
    -- unification unfolds `Txn.write` and `STxn.step` to their `if` chains on the same three tests
    show StepSim exceptOut (t.write k v kind ts) _
    exact ite_rel (fun _ => ⟨rfl, h'⟩) fun _ => ite_rel (fun _ => ⟨rfl, h'⟩) fun _ =>
      ite_rel (fun _ => ⟨rfl, h'⟩) fun _ => ⟨rfl, rfl, rfl,
        inv_upsert hi ⟨k, v, kind, t.savepoints, t.writeSeqno + 1, ts⟩ rfl, upsert_nonempty hne⟩
  | get k =>
    rw [inv_step_get hi]
    exact ite_rel (R := StepSim id) (fun _ => ⟨rfl, h⟩) fun _ => ite_rel (fun _ => ⟨rfl, h⟩) fun _ =>
      ite_rel (fun _ => ⟨rfl, h⟩) fun _ => ⟨rfl, h⟩
  | setSp =>
    show StepSim exceptOut t.setSavepoint _
    exact ite_rel (fun _ => ⟨rfl, h⟩) fun _ => ite_rel (fun _ => ⟨rfl, h⟩) fun _ =>
      ⟨rfl, rfl, rfl, inv_pushSp hi, hne⟩
  | rbSp =>
    show StepSim exceptOut t.rollbackToSavepoint _
    refine ite_rel (fun _ => ⟨rfl, h⟩) fun _ => ite_rel (fun _ => ⟨rfl, h⟩) fun _ => ?_
    by_cases h0 : t.savepoints = 0
    · rw [if_pos (by simpa using h0), inv_rollback_none hi h0]
      exact ⟨rfl, h⟩
    · obtain ⟨s', hs', hinv⟩ := inv_dropLevel hi (Nat.pos_of_ne_zero h0)
      rw [if_neg (by simpa using h0), hs']
      exact ⟨rfl, rfl, rfl, hinv, dropLevel_nonempty⟩
  | rollback => exact ⟨rfl, rfl, rfl, inv_empty, fun _ h => nomatch h⟩
  | commit okp =>
    -- the third test differs (`t.ws.isEmpty`, `ss.log.isEmpty`): spell out the spec's chain and rewrite its test
    have he := ws_isEmpty_eq_log_isEmpty hi hne
    show StepSim (fun r => match r with
        | .error e => .err e
        | .ok b => if b.isEmpty || okp then .ok else .pipelineErr) (t.commit okp)
      (if t.closed then _ else if t.mode == .readOnly then _ else if ss.log.isEmpty then _ else _)
    rw [← he]
    exact ite_rel (fun _ => ⟨rfl, h⟩) fun _ => ite_rel (fun _ => ⟨rfl, h⟩) fun _ =>
      ite_rel (fun _ => ⟨rfl, rfl, rfl, inv_congr hi rfl rfl, hne⟩) fun he => ite_rel
        (fun ho => ⟨by simp [ho], rfl, rfl, inv_congr (inv_clear hi) rfl rfl, fun _ h => nomatch h⟩)
        fun ho => ⟨by simp [ho, batch_isEmpty hne, he], rfl, rfl, inv_clear hi, fun _ h => nomatch h⟩

theorem sim_run {t : Txn} {s : STxn} (h : Sim t s) (snap : Key → Option Val) (ops : List TOp) :
    runProg (Txn.step snap) t ops = runProg (STxn.step snap) s ops ∧
    Sim (runState (Txn.step snap) t ops) (runState (STxn.step snap) s ops) := by
  induction ops generalizing t s with
  | nil => exact ⟨rfl, h⟩
  | cons op ops ih =>
    obtain ⟨ho, hs⟩ := sim_step h snap op
    exact ⟨by rw [runProg, runProg, ho, (ih hs).1], (ih hs).2⟩

theorem getFull_congr {t t' : Txn} {s : STxn} (h : Sim t s) (h' : Sim t' s)
    (snap : Key → Option Val) (k : Key) : t'.getFull snap k = t.getFull snap k := by
  rw [Txn.getFull, Txn.getFull, Txn.get_eq, Txn.get_eq, inv_last h.inv, inv_last h'.inv, h.mode, h.closed,
    h'.mode, h'.closed]
