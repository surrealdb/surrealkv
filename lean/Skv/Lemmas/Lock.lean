import Skv.Model.Lock

/-- the invariant: an opener is in a live phase exactly when it owns the OS lock, and every
data mutation so far was made by the lock owner of that moment. -/
structure LInv (s : LState) : Prop where
  liveIff : ∀ i, (s.phase i).live = true ↔ s.holder = some i
  touched : ∀ t ∈ s.touches, t.2 = some t.1

theorem linv_init : LInv {} := ⟨fun i => by simp [LPhase.live], fun t ht => nomatch ht⟩

@[simp] theorem setPhase_phase (s : LState) (i j : Nat) (p : LPhase) :
    (s.setPhase i p).phase j = if j = i then p else s.phase j := rfl
@[simp] theorem setPhase_holder (s : LState) (i : Nat) (p : LPhase) : (s.setPhase i p).holder = s.holder := rfl
@[simp] theorem setPhase_touches (s : LState) (i : Nat) (p : LPhase) : (s.setPhase i p).touches = s.touches := rfl
@[simp] theorem setPhase_dataVer (s : LState) (i : Nat) (p : LPhase) : (s.setPhase i p).dataVer = s.dataVer := rfl
@[simp] theorem setPhase_lockTxt (s : LState) (i : Nat) (p : LPhase) : (s.setPhase i p).lockTxt = s.lockTxt := rfl
@[simp] theorem dropLock_phase (s : LState) (i : Nat) : (s.dropLock i).phase = s.phase := rfl
@[simp] theorem dropLock_touches (s : LState) (i : Nat) : (s.dropLock i).touches = s.touches := rfl
@[simp] theorem dropLock_holder (s : LState) (i : Nat) :
    (s.dropLock i).holder = if s.holder = some i then none else s.holder := rfl

/-- every step that moves an opener has this shape: a new phase for `i`, a new owner and a new content of `LOCK` -/
theorem linv_move {s : LState} (h : LInv s) (i : Nat) (p : LPhase) (hd txt : Option Nat)
    (hi : p.live = true ↔ hd = some i) (ho : ∀ j, j ≠ i → (hd = some j ↔ s.holder = some j)) :
    LInv { s.setPhase i p with holder := hd, lockTxt := txt } where
  liveIff j := by
    show (if j = i then p else s.phase j).live = true ↔ hd = some j
    by_cases hj : j = i
    · rw [if_pos hj, hj]; exact hi
    · rw [if_neg hj, ho j hj]; exact h.liveIff j
  touched := h.touched

-- `q` is free so that a caller passes either a concrete phase (`hq`, then `rfl`) or `rfl` and a fact about `s.phase i`
theorem linv_setPhase {s : LState} (h : LInv s) {i : Nat} {p q : LPhase} (hq : s.phase i = q)
    (hp : p.live = q.live) : LInv (s.setPhase i p) :=
  linv_move h i p s.holder s.lockTxt (by rw [hp, ← hq]; exact h.liveIff i) (fun _ _ => Iff.rfl)

theorem linv_dropLock {s : LState} (h : LInv s) (i : Nat) {p : LPhase} (hp : p.live = false) :
    LInv ((s.dropLock i).setPhase i p) := by
  refine linv_move h i p _ s.lockTxt ?_ ?_
  · rw [hp]; by_cases hh : s.holder = some i <;> simp [hh]
  · intro j hj
    by_cases hh : s.holder = some i
    · simp [hh, Ne.symm hj]
    · simp [hh]

theorem linv_step {s : LState} (h : LInv s) (op : LOp) : LInv (s.step op) := by
  cases op with
  | begin i =>
    dsimp only [LState.step]
    split  -- one goal for each alternative of `.idle | .closed | .refused | .dead`, none of them live
    next hq => exact linv_setPhase h hq rfl
    next hq => exact linv_setPhase h hq rfl
    next hq => exact linv_setPhase h hq rfl
    next hq => exact linv_setPhase h hq rfl
    · exact h
  | tryLock i =>
    dsimp only [LState.step]
    split
    next hq =>
      split
      next hfree =>
        exact linv_move h i .recovering (some i) (some i) (by simp [LPhase.live])
          (fun j hj => by simp [hfree, Ne.symm hj])
      next => exact linv_setPhase h hq rfl
    next => exact h
  | touch i =>
    dsimp only [LState.step]
    split
    · rename_i hl
      refine ⟨h.liveIff, fun t ht => ?_⟩
      rcases List.mem_append.mp ht with ht | ht
      · exact h.touched t ht
      · cases List.mem_singleton.mp ht; exact (h.liveIff i).mp hl
    · exact h
  | finishOpen i =>
    dsimp only [LState.step]
    split
    next hq => exact linv_setPhase h hq rfl
    · exact h
  | beginClose i =>
    dsimp only [LState.step]
    split
    next hq => exact linv_setPhase h hq rfl
    · exact h
  | release i =>
    dsimp only [LState.step]
    split
    · exact linv_dropLock h i rfl
    · exact h
  | failOpen i =>
    dsimp only [LState.step]
    split
    · exact linv_dropLock h i rfl
    · exact h
  | crash i => exact linv_dropLock h i rfl

theorem linv_run {s : LState} (h : LInv s) (ops : List LOp) : LInv (s.run ops) :=
  List.foldlRecOn ops _ h fun _ hs op _ => linv_step hs op

theorem linv_reachable (ops : List LOp) : LInv (LState.run {} ops) := linv_run linv_init ops

theorem LState.step_release {s : LState} {j : Nat} (h : s.phase j = .closing) :
    s.step (.release j) = (s.dropLock j).setPhase j .closed := by simp only [LState.step, h]

theorem LState.step_failOpen {s : LState} {j : Nat} (h : s.phase j = .recovering) :
    s.step (.failOpen j) = (s.dropLock j).setPhase j .closed := by simp only [LState.step, h]

theorem LState.step_tryLock_free {s : LState} {i : Nat} (hi : s.phase i = .starting) (hh : s.holder = none) :
    s.step (.tryLock i) = { s.setPhase i .recovering with holder := some i, lockTxt := some i } := by
  simp only [LState.step, hi, hh]

theorem LState.step_tryLock_held {s : LState} {i j : Nat} (hi : s.phase i = .starting) (hh : s.holder = some j) :
    s.step (.tryLock i) = s.setPhase i .refused := by
  simp only [LState.step, hi, hh]

/-- `release`, `failOpen` and `crash` of the owner `j` all end in a state of this form -/
theorem reopen_after_drop {s : LState} (h : LInv s) {j i : Nat} {p q : LPhase} (hq : s.phase j = q)
    (hl : q.live = true) (hi : s.phase i = .starting) (hij : i ≠ j) :
    (((s.dropLock j).setPhase j p).step (.tryLock i)).phase i = .recovering := by
  have hh : s.holder = some j := (h.liveIff j).mp (hq ▸ hl)
  rw [LState.step_tryLock_free (by simp [hij, hi]) (by simp [hh])]
  exact if_pos rfl
