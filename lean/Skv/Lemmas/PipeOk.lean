import Skv.Lemmas.PipelinePermits
/-!
`PipeOk p s`: everything that holds in the reachable states of a pipeline with `p` permits and at
least as many ring slots.  Progress, bounded work and termination (C17) are proved of any state that
satisfies it; the reachable states do.
-/
open PState

structure PipeOk (p : Nat) (s : PState) : Prop where
  pinv : PInv s
  req : ReqInv s
  perm : PermInv p s
  np : s.panicked = false
  cap : p ≤ s.cap
  live : LInv p (proj s)

theorem PipeOk.step {p : Nat} {s : PState} (h : PipeOk p s) (i : Nat) : PipeOk p (s.stepThread i) :=
  have hs := perm_step h.pinv h.req h.live h.perm h.cap i
  ⟨pinv_step h.pinv h.req i, reqInv_step h.req i, hs.1, hs.2.trans h.np, (stepThread_cap_visible s i).1 ▸ h.cap,
    linv_step h.live h.req i⟩

theorem PipeOk.begin {p : Nat} {s : PState} (h : PipeOk p s) (i : Nat) (req : CommitReq) :
    PipeOk p (s.begin i req) := by
  rcases begin_cases s i req with e | ⟨t, ht, hpc, e⟩ <;> rw [e]
  · exact h
  · have hi : (proj s).th[i]? = some (cls .ready) := hpc ▸ proj_th ht
    exact ⟨pinv_setThread h.pinv i _ trivial, reqInv_set h.req rfl (fun st hst => by cases hst),
      perm_setThread h.perm i _ nofun, h.np, h.cap, proj_setThread s i _ ▸ linv_begin h.live hi⟩

theorem pipeOk_initWith (n gc : Nat) {p c : Nat} (hpc : p ≤ c) : PipeOk p (PState.initWith n gc p c) :=
  ⟨pinv_initWith n gc p c, reqInv_initWith n gc p c, perm_initWith n gc p c, rfl, hpc,
    linv_idle (proj (PState.initWith n gc p c)) rfl rfl rfl fun k c hk => by
      obtain ⟨t, ht, rfl⟩ := proj_th_inv hk
      rw [init_thread ht]; rfl⟩

theorem pipeOk_run (n gc : Nat) {p c : Nat} (hpc : p ≤ c) (ops : List POp) :
    PipeOk p ((PState.initWith n gc p c).run ops) :=
  run_induction (fun _ i req h => h.begin i req) (fun _ i h => h.step i) (pipeOk_initWith n gc hpc) ops

theorem PipeOk.progress {p : Nat} {s : PState} (h : PipeOk p s) (hp : 0 < p)
    (hbusy : ∃ (i : Nat) (t : Thread), s.threads[i]? = some t ∧ t.pc ≠ .ready) : ∃ i, s.stepThread i ≠ s := by
  refine Classical.byContradiction fun hno => ?_
  have hst : ∀ k t, s.threads[k]? = some t → Stuck s t := fun k t ht =>
    stuck_of_step_eq h.np ht (Classical.byContradiction fun hne => hno ⟨k, hne⟩)
  have hq : quiet (proj s) := by
    intro k cc hk
    obtain ⟨t, ht, rfl⟩ := proj_th_inv hk
    rcases hst k t ht with h1 | ⟨st, h1, _⟩ | ⟨f, h1, h2⟩
    · exact .inl (by rw [h1]; rfl)
    · exact .inr (.inl (by rw [h1]; rfl))
    · exact .inr (.inr ⟨f, by rw [h1]; rfl, completedRes_not_mem h2⟩)
  obtain ⟨hcls, hperm⟩ := quiet_all_idle h.live hq
  obtain ⟨i, t, ht, hne⟩ := hbusy
  have hc := hcls i _ (proj_th ht)
  rcases hst i t ht with h1 | ⟨st, h1, _, h2⟩ | ⟨f, h1, _⟩
  · exact hne h1
  · have : s.permits = p := hperm
    omega
  · rw [h1] at hc; rcases hc with hc | hc <;> cases hc

theorem PipeOk.all_return {p : Nat} {s : PState} (h : PipeOk p s) (hp : 0 < p) :
    ∃ sched : List Nat, allEffective s sched ∧ ∀ t ∈ (s.runSched sched).threads, t.pc = .ready := by
  induction hm : s.measure using Nat.strongRecOn generalizing s with
  | _ m ih =>
    by_cases hbusy : ∃ (i : Nat) (t : Thread), s.threads[i]? = some t ∧ t.pc ≠ .ready
    · obtain ⟨i, hne⟩ := h.progress hp hbusy
      have h' := h.step i
      obtain ⟨sched, he, hr⟩ := ih _ (hm ▸ step_decreases hne h'.np) h' rfl
      exact ⟨i :: sched, ⟨hne, he⟩, hr⟩
    · refine ⟨[], trivial, fun t (ht : t ∈ s.threads) => ?_⟩
      obtain ⟨i, hi, hget⟩ := List.getElem_of_mem ht
      exact Classical.byContradiction fun hne => hbusy ⟨i, t, by rw [List.getElem?_eq_getElem hi, hget], hne⟩

theorem PipeOk.bounded {p : Nat} {s : PState} (h : PipeOk p s) (sched : List Nat)
    (he : allEffective s sched) : sched.length ≤ s.measure := by
  induction sched generalizing s with
  | nil => exact Nat.zero_le _
  | cons i is ih =>
    have h' := h.step i
    have := step_decreases he.1 h'.np
    have := ih h' he.2
    simp only [List.length_cons]; omega
