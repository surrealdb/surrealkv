import Skv.Model.TaskStop

/-- holds once the flag is set and `notify_one` was called afterwards; the task is then on its way out -/
def StopInv (s : TState) : Prop :=
  s.stop = true ∧ (s.phase = .exited ∨ s.phase = .woken ∨ (s.phase = .running ∧ s.permit = true))

theorem stopInv_after (s : TState) : StopInv ((s.step .setStop).step .notifyOne) := by
  obtain ⟨ph, pm, st⟩ := s
  cases ph <;> simp [StopInv, TState.step]

theorem stopInv_step {s : TState} (h : StopInv s) (op : TOp) : StopInv (s.step op) := by
  obtain ⟨ph, pm, st⟩ := s
  obtain ⟨rfl, rfl | rfl | ⟨rfl, rfl⟩⟩ := h <;> cases op <;> simp [StopInv, TState.step]

theorem settle_exits {s : TState} (h : StopInv s) : s.settle.phase = .exited := by
  obtain ⟨ph, pm, st⟩ := s
  obtain ⟨rfl, rfl | rfl | ⟨rfl, rfl⟩⟩ := h <;> simp [TState.settle, TState.step]

-- cited by C19 and by C17, which cannot import C19 (Lemmas/Lock and Lemmas/PipeLive both declare `LInv`)
theorem task_exits_after_stop (s : TState) (ops : List TOp) :
    (((s.step .setStop).step .notifyOne).run ops).settle.phase = .exited :=
  settle_exits (List.foldlRecOn ops _ (stopInv_after s) fun _ hs op _ => stopInv_step hs op)
