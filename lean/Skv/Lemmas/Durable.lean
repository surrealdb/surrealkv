import Skv.Model.Durable2
/-!
Invariants of the two durable-state machines (C02 / C03 / C07).  `Shape` holds along every run of either machine:
it is proved once, on `DState`, and carried to `D2` along `D2.toD`.  Beside it `DState` keeps `Pair` as long as no
rotation falls between a batch's WAL append and its apply, and the repaired `D2` keeps `Own2` on every run.
`Shape` with `Pair` gives `DInv`, `Shape` with `Own2` gives `Inv2`.
-/

def DState.mems (d : DState) : List Mem := d.imms ++ [d.memActive]

def D2.mems (d : D2) : List Mem := d.imms ++ [d.memActive]

theorem DState.mem_mems {d : DState} {m : Mem} : m ∈ d.mems ↔ m ∈ d.imms ∨ m = d.memActive := by
  simp [DState.mems]

theorem DState.mem_mems_cons {d : DState} {m m' : Mem} {rest : List Mem} (hi : d.imms = m :: rest) :
    m' ∈ d.mems ↔ m' = m ∨ m' ∈ rest ∨ m' = d.memActive := by
  rw [DState.mem_mems, hi, List.mem_cons, or_assoc]

theorem appendSeg_of_mem {segs : List (Nat × List Nat)} {s0 : Nat × List Nat} (hs0 : s0 ∈ segs) (id b : Nat) :
    (s0.1, if s0.1 = id then s0.2 ++ [b] else s0.2) ∈ appendSeg segs id b := by
  unfold appendSeg
  refine List.mem_map.mpr ⟨s0, hs0, ?_⟩
  by_cases h : s0.1 = id <;> simp [h]

theorem appendSeg_back {segs : List (Nat × List Nat)} {id b : Nat} {s : Nat × List Nat}
    (hs : s ∈ appendSeg segs id b) :
    ∃ s0 ∈ segs, s.1 = s0.1 ∧ ∀ x ∈ s.2, x ∈ s0.2 ∨ (x = b ∧ s0.1 = id) := by
  obtain ⟨s0, hs0, rfl⟩ := List.mem_map.mp hs
  refine ⟨s0, hs0, by split <;> rfl, fun x hx => ?_⟩
  split at hx
  · rename_i hid
    rcases List.mem_append.mp hx with hx | hx
    · exact .inl hx
    · exact .inr ⟨List.mem_singleton.mp hx, eq_of_beq hid⟩
  · exact .inl hx

/-- batch `x` has a record in WAL segment `i` -/
def inSeg (segs : List (Nat × List Nat)) (i x : Nat) : Prop := ∃ s ∈ segs, s.1 = i ∧ x ∈ s.2

theorem inSeg.appendSeg {segs : List (Nat × List Nat)} {i x id b : Nat} (h : inSeg segs i x) :
    inSeg (appendSeg segs id b) i x := by
  obtain ⟨s, hs, e, hx⟩ := h
  refine ⟨_, appendSeg_of_mem hs id b, e, ?_⟩
  dsimp only
  split
  · exact List.mem_append_left _ hx
  · exact hx

theorem inSeg_appendSeg_self {segs : List (Nat × List Nat)} {id b : Nat} {r : List Nat} (h : (id, r) ∈ segs) :
    inSeg (appendSeg segs id b) id b :=
  ⟨_, appendSeg_of_mem h id b, rfl, by simp⟩

theorem inSeg.append {segs l : List (Nat × List Nat)} {i x : Nat} (h : inSeg segs i x) :
    inSeg (segs ++ l) i x :=
  h.imp fun _ hs => ⟨List.mem_append_left _ hs.1, hs.2⟩

theorem inSeg.filter {segs : List (Nat × List Nat)} {i x : Nat} (h : inSeg segs i x) {n : Nat} (hn : n ≤ i) :
    inSeg (segs.filter (fun s => s.1 ≥ n)) i x := by
  obtain ⟨s, hs, e, hx⟩ := h
  exact ⟨s, List.mem_filter.mpr ⟨hs, decide_eq_true (Nat.le_trans hn (Nat.le_of_eq e.symm))⟩, e, hx⟩

theorem inSeg.above {segs : List (Nat × List Nat)} {i x n : Nat} (h : inSeg segs i x) (hn : n ≤ i) :
    ∃ s ∈ segs, s.1 ≥ n ∧ x ∈ s.2 :=
  let ⟨s, hs, e, hx⟩ := h
  ⟨s, hs, Nat.le_trans hn (Nat.le_of_eq e.symm), hx⟩

/-- `D2` forgetting where the pending batch was logged -/
def D2.toD (d : D2) : DState :=
  { segs := d.segs, active := d.active, logNumber := d.logNumber, tables := d.tables, memActive := d.memActive,
    imms := d.imms, acked := d.acked, pending := d.pending, next := d.next }

/-- the second logging of `D2`'s `applyAck` -/
def DState.relog (d : DState) (b : Nat) : DState := { d with segs := appendSeg d.segs d.active b }

theorem D2.mem_mems {d : D2} {m : Mem} : m ∈ d.mems ↔ m ∈ d.imms ∨ m = d.memActive :=
  DState.mem_mems (d := d.toD)

theorem D2.step_toD (d : D2) (op : DOp) :
    (d.step op).toD = d.toD.step op ∨
    ∃ b, d.pending = some b ∧ (d.step op).toD = (d.toD.relog b).step op := by
  obtain ⟨segs, active, logNumber, tables, memActive, imms, acked, pending, pendSeg, next⟩ := d
  cases op with
  | walAppend => left; cases pending <;> rfl
  | applyAck =>
    cases pending with
    | none => left; rfl
    | some b =>
      by_cases hc : pendSeg < memActive.wal
      · right; exact ⟨b, rfl, by simp only [D2.step, if_pos hc]; rfl⟩
      · left; simp only [D2.step, if_neg hc]; rfl
  | rotate => left; rfl
  | flushOldest => left; cases imms <;> rfl
  | cleanupWal => left; rfl

structure Shape (d : DState) : Prop where
  actWal : d.memActive.wal = d.active
  actSeg : ∃ r, (d.active, r) ∈ d.segs
  segLe : ∀ s ∈ d.segs, s.1 ≤ d.active
  immLt : ∀ m ∈ d.imms, m.wal < d.active
  immSorted : (d.imms.map (·.wal)).Pairwise (· < ·)
  logLe : d.logNumber ≤ d.active ∧ ∀ m ∈ d.imms, d.logNumber ≤ m.wal
  segLt : ∀ s ∈ d.segs, ∀ b ∈ s.2, b < d.next
  tabLt : ∀ b ∈ d.tables, b < d.next
  memLt : ∀ m ∈ d.mems, ∀ b ∈ m.batches, b < d.next
  pendLt : ∀ b, d.pending = some b → b < d.next
  ackLt : ∀ b ∈ d.acked, b < d.next
  ackedOrPending : ∀ b, b < d.next → b ∈ d.acked ∨ d.pending = some b

theorem Shape.init : Shape {} := by
  refine ⟨rfl, ⟨[], List.mem_singleton.mpr rfl⟩, ?_, nofun, .nil, ⟨Nat.le_refl _, nofun⟩,
    ?_, nofun, ?_, nofun, nofun, ?_⟩
  · intro s hs; cases List.mem_singleton.mp hs; exact Nat.le_refl _
  · intro s hs b hb; cases List.mem_singleton.mp hs; cases hb
  · intro m hm b hb; cases List.mem_singleton.mp hm; cases hb
  · intro b hb; exact absurd hb (Nat.not_lt_zero _)

theorem Shape.memWal {d : DState} (h : Shape d) {m : Mem} (hm : m ∈ d.mems) :
    d.logNumber ≤ m.wal ∧ m.wal ≤ d.active := by
  rcases DState.mem_mems.mp hm with hm | rfl
  · exact ⟨h.logLe.2 m hm, Nat.le_of_lt (h.immLt m hm)⟩
  · rw [h.actWal]; exact ⟨h.logLe.1, Nat.le_refl _⟩

theorem Shape.relog {d : DState} (h : Shape d) {b : Nat} (hb : b < d.next) : Shape (d.relog b) := by
  obtain ⟨r, hr⟩ := h.actSeg
  refine ⟨h.actWal, ⟨_, appendSeg_of_mem hr d.active b⟩, ?_, h.immLt, h.immSorted, h.logLe,
    ?_, h.tabLt, h.memLt, h.pendLt, h.ackLt, h.ackedOrPending⟩
  · intro s hs
    obtain ⟨s0, hs0, e, _⟩ := appendSeg_back hs
    rw [e]; exact h.segLe s0 hs0
  · intro s hs x hx
    obtain ⟨s0, hs0, _, hc⟩ := appendSeg_back hs
    rcases hc x hx with hx | ⟨rfl, _⟩
    · exact h.segLt s0 hs0 x hx
    · exact hb

theorem Shape.step {d : DState} (h : Shape d) (op : DOp) : Shape (d.step op) := by
  cases op with
  | walAppend =>
    simp only [DState.step]
    cases hp : d.pending with
    | some b => exact h
    | none =>
      -- the numbering moves on, and the record goes to the active segment
      have hbump : Shape ({ d with pending := some d.next, next := d.next + 1 } : DState) :=
        ⟨h.actWal, h.actSeg, h.segLe, h.immLt, h.immSorted, h.logLe,
          fun s hs b hb => Nat.lt_succ_of_lt (h.segLt s hs b hb), fun b hb => Nat.lt_succ_of_lt (h.tabLt b hb),
          fun m hm b hb => Nat.lt_succ_of_lt (h.memLt m hm b hb),
          fun b hb => by cases hb; exact Nat.lt_succ_self _, fun b hb => Nat.lt_succ_of_lt (h.ackLt b hb),
          fun b hb => by
            rcases Nat.lt_succ_iff_lt_or_eq.mp hb with hb | rfl
            · exact (h.ackedOrPending b hb).imp_right (fun h => by rw [hp] at h; cases h)
            · exact .inr rfl⟩
      exact hbump.relog (Nat.lt_succ_self _)
  | applyAck =>
    simp only [DState.step]
    cases hp : d.pending with
    | none => exact h
    | some b0 =>
      refine ⟨h.actWal, h.actSeg, h.segLe, h.immLt, h.immSorted, h.logLe,
        h.segLt, h.tabLt, ?_, nofun, ?_, ?_⟩
      · intro m hm b hb
        rcases DState.mem_mems.mp hm with hm | rfl
        · exact h.memLt m (DState.mem_mems.mpr (.inl hm)) b hb
        · rcases List.mem_append.mp hb with hb | hb
          · exact h.memLt _ (DState.mem_mems.mpr (.inr rfl)) b hb
          · cases List.mem_singleton.mp hb; exact h.pendLt _ hp
      · intro b hb
        rcases List.mem_append.mp hb with hb | hb
        · exact h.ackLt b hb
        · cases List.mem_singleton.mp hb; exact h.pendLt _ hp
      · intro b hb
        rcases h.ackedOrPending b hb with h | h
        · exact .inl (List.mem_append_left _ h)
        · rw [hp] at h; cases h; exact .inl (by simp)
  | rotate =>
    simp only [DState.step]
    have hact : d.memActive.wal < d.active + 1 := Nat.lt_succ_of_le (Nat.le_of_eq h.actWal)
    refine ⟨rfl, ⟨[], List.mem_append_right _ (List.mem_singleton.mpr rfl)⟩,
      List.forall_mem_append.mpr ⟨fun s hs => Nat.le_succ_of_le (h.segLe s hs), List.forall_mem_singleton.mpr (Nat.le_refl _)⟩,
      List.forall_mem_append.mpr ⟨fun m hm => Nat.lt_succ_of_lt (h.immLt m hm), List.forall_mem_singleton.mpr hact⟩,
      ?_, ⟨Nat.le_succ_of_le h.logLe.1,
        List.forall_mem_append.mpr ⟨h.logLe.2, List.forall_mem_singleton.mpr (Nat.le_trans h.logLe.1 (Nat.le_of_eq h.actWal.symm))⟩⟩,
      List.forall_mem_append.mpr ⟨h.segLt, List.forall_mem_singleton.mpr nofun⟩, h.tabLt,
      List.forall_mem_append.mpr ⟨h.memLt, List.forall_mem_singleton.mpr nofun⟩, h.pendLt, h.ackLt, h.ackedOrPending⟩
    rw [List.map_append, List.pairwise_append]
    refine ⟨h.immSorted, List.pairwise_singleton _ _, fun a ha b hb => ?_⟩
    obtain ⟨m, hm, rfl⟩ := List.mem_map.mp ha
    cases List.mem_singleton.mp hb
    exact Nat.lt_of_lt_of_eq (h.immLt m hm) h.actWal.symm
  | flushOldest =>
    simp only [DState.step]
    cases hi : d.imms with
    | nil => exact h
    | cons m rest =>
      simp only
      have hlt := h.immLt
      have hsrt := h.immSorted
      rw [hi] at hlt hsrt
      obtain ⟨hgt, hsorted⟩ := List.pairwise_cons.mp hsrt
      refine ⟨h.actWal, h.actSeg, h.segLe, fun m' hm' => hlt m' (List.mem_cons_of_mem _ hm'), hsorted,
        ⟨hlt m (List.mem_cons_self ..), fun m' hm' => hgt _ (List.mem_map.mpr ⟨m', hm', rfl⟩)⟩,
        h.segLt, ?_, ?_, h.pendLt, h.ackLt, h.ackedOrPending⟩
      · intro b hb
        rcases List.mem_append.mp hb with hb | hb
        · exact h.tabLt b hb
        · exact h.memLt m ((DState.mem_mems_cons hi).mpr (.inl rfl)) b hb
      · intro m' hm'
        exact h.memLt m' ((DState.mem_mems_cons hi).mpr (.inr (DState.mem_mems.mp hm')))
  | cleanupWal =>
    simp only [DState.step]
    obtain ⟨r, hr⟩ := h.actSeg
    exact ⟨h.actWal, ⟨r, List.mem_filter.mpr ⟨hr, decide_eq_true h.logLe.1⟩⟩,
      fun s hs => h.segLe s (List.mem_filter.mp hs).1, h.immLt, h.immSorted, h.logLe,
      fun s hs => h.segLt s (List.mem_filter.mp hs).1, h.tabLt, h.memLt, h.pendLt, h.ackLt, h.ackedOrPending⟩

theorem Shape.step2 {d : D2} (h : Shape d.toD) (op : DOp) : Shape (d.step op).toD := by
  rcases D2.step_toD d op with e | ⟨b, hp, e⟩ <;> rw [e]
  · exact h.step op
  · exact (h.relog (h.pendLt b hp)).step op

theorem Shape.run {d : DState} (h : Shape d) (ops : List DOp) : Shape (d.run ops) := by
  induction ops generalizing d with
  | nil => exact h
  | cons op ops ih => exact ih (h.step op)

theorem Shape.run2 {d : D2} (h : Shape d.toD) (ops : List DOp) : Shape (d.run ops).toD := by
  induction ops generalizing d with
  | nil => exact h
  | cons op ops ih => exact ih (h.step2 op)

theorem Shape.reach (ops : List DOp) : Shape (DState.run {} ops) := Shape.run .init ops

theorem Shape.reach2 (ops : List DOp) : Shape (D2.run {} ops).toD := Shape.run2 (d := {}) .init ops

theorem DState.mem_recover {d : DState} {b : Nat} :
    b ∈ d.recover ↔ b ∈ d.tables ∨ ∃ s ∈ d.segs, s.1 ≥ d.logNumber ∧ b ∈ s.2 := by
  simp only [DState.recover, List.mem_append, List.mem_flatMap, List.mem_filter, decide_eq_true_eq, and_assoc]

theorem D2.mem_recover {d : D2} {b : Nat} :
    b ∈ d.recover ↔ b ∈ d.tables ∨ ∃ s ∈ d.segs, s.1 ≥ d.logNumber ∧ b ∈ s.2 :=
  DState.mem_recover (d := d.toD)

theorem Shape.recover_lt {d : DState} (h : Shape d) {b : Nat} (hb : b ∈ d.recover) : b < d.next := by
  rcases DState.mem_recover.mp hb with hb | ⟨s, hs, _, hb⟩
  · exact h.tabLt b hb
  · exact h.segLt s hs b hb

/-- `false`: the reopen leaves `log_number` alone; `k`: how far its replay got -/
theorem D2.mem_recover_reopen (d : D2) (k b : Nat) : b ∈ (d.reopen false k).recover ↔ b ∈ d.recover := by
  rw [D2.mem_recover, D2.mem_recover]
  simp only [D2.reopen, Bool.false_and, Bool.false_eq_true, if_false, List.mem_append, List.mem_flatMap,
    List.mem_filter, decide_eq_true_eq]
  constructor
  · rintro (((h | ⟨s, ⟨⟨hs, hge⟩, _⟩, hb⟩) | h) | ⟨s, hs, hge, hb⟩)
    · exact .inl h
    · exact .inr ⟨s, hs, hge, hb⟩
    · have := List.mem_of_mem_take h
      simp only [List.mem_flatMap, List.mem_filter, decide_eq_true_eq] at this
      obtain ⟨s, ⟨⟨hs, hge⟩, _⟩, hb⟩ := this
      exact .inr ⟨s, hs, hge, hb⟩
    · exact .inr ⟨s, hs, Nat.le_trans (Nat.le_max_left _ _) hge, hb⟩
  · rintro (h | ⟨s, hs, hge, hb⟩)
    · exact .inl (.inl (.inl h))
    · by_cases hlt : s.1 < d.active
      · exact .inl (.inl (.inr ⟨s, ⟨⟨hs, hge⟩, hlt⟩, hb⟩))
      · exact .inr ⟨s, hs, Nat.max_le.mpr ⟨hge, Nat.le_of_not_lt hlt⟩, hb⟩

structure Pair (d : DState) : Prop where
  pairing : ∀ s ∈ d.segs, s.1 ≥ d.logNumber → ∀ b ∈ s.2,
      b ∈ d.tables ∨ (∃ m ∈ d.mems, m.wal = s.1 ∧ b ∈ m.batches) ∨ (d.pending = some b ∧ s.1 = d.active)
  safe : ∀ b, b < d.next → b ∈ d.tables ∨ ∃ s ∈ d.segs, s.1 ≥ d.logNumber ∧ b ∈ s.2

/-- `Shape` and `Pair` flattened (`segLt`, `tabLt`, `memLt`, `pendLt` of `Shape` regrouped as `recLt`) -/
structure DInv (d : DState) : Prop where
  actWal : d.memActive.wal = d.active
  actSeg : ∃ r, (d.active, r) ∈ d.segs
  segLe : ∀ s ∈ d.segs, s.1 ≤ d.active
  immLt : ∀ m ∈ d.imms, m.wal < d.active
  immSorted : (d.imms.map (·.wal)).Pairwise (· < ·)
  logLe : d.logNumber ≤ d.active ∧ ∀ m ∈ d.imms, d.logNumber ≤ m.wal
  recLt : (∀ s ∈ d.segs, ∀ b ∈ s.2, b < d.next) ∧ (∀ b ∈ d.tables, b < d.next) ∧
    (∀ m ∈ d.mems, ∀ b ∈ m.batches, b < d.next) ∧ (∀ b, d.pending = some b → b < d.next)
  pairing : ∀ s ∈ d.segs, s.1 ≥ d.logNumber → ∀ b ∈ s.2,
      b ∈ d.tables ∨ (∃ m ∈ d.mems, m.wal = s.1 ∧ b ∈ m.batches) ∨ (d.pending = some b ∧ s.1 = d.active)
  safe : ∀ b, b < d.next → b ∈ d.tables ∨ ∃ s ∈ d.segs, s.1 ≥ d.logNumber ∧ b ∈ s.2
  ackedOrPending : ∀ b, b < d.next → b ∈ d.acked ∨ d.pending = some b

theorem DInv.of_shape {d : DState} (hs : Shape d) (h : Pair d) : DInv d :=
  ⟨hs.actWal, hs.actSeg, hs.segLe, hs.immLt, hs.immSorted, hs.logLe, ⟨hs.segLt, hs.tabLt, hs.memLt, hs.pendLt⟩,
    h.pairing, h.safe, hs.ackedOrPending⟩

theorem Pair.init : Pair {} :=
  ⟨fun s hs _ b hb => (by cases List.mem_singleton.mp hs; cases hb), fun b hb => absurd hb (Nat.not_lt_zero _)⟩

theorem Pair.step {d : DState} (hS : Shape d) (h : Pair d) (op : DOp) (hns : op = .rotate → d.pending = none) :
    Pair (d.step op) := by
  obtain ⟨r, hr⟩ := hS.actSeg
  cases op with
  | walAppend =>
    simp only [DState.step]
    cases hp : d.pending with
    | some b => exact h
    | none =>
      refine ⟨?_, ?_⟩
      · intro s hs hge b hb
        obtain ⟨s0, hs0, e, hc⟩ := appendSeg_back hs
        rcases hc b hb with hb0 | ⟨rfl, hid⟩
        · rcases h.pairing s0 hs0 (Nat.le_trans hge (Nat.le_of_eq e)) b hb0 with ht | ⟨m, hm, e', hbm⟩ | ⟨ht, _⟩
          · exact .inl ht
          · exact .inr (.inl ⟨m, hm, e'.trans e.symm, hbm⟩)
          · rw [hp] at ht; cases ht
        · exact .inr (.inr ⟨rfl, e.trans hid⟩)
      · intro b hb
        rcases Nat.lt_succ_iff_lt_or_eq.mp hb with hb | rfl
        · exact (h.safe b hb).imp_right fun ⟨s, hs, hge, hbs⟩ =>
            (inSeg.appendSeg ⟨s, hs, rfl, hbs⟩).above hge
        · exact .inr ((inSeg_appendSeg_self hr).above hS.logLe.1)
  | applyAck =>
    simp only [DState.step]
    cases hp : d.pending with
    | none => exact h
    | some b0 =>
      refine ⟨?_, h.safe⟩
      intro s hs hge b hb
      rcases h.pairing s hs hge b hb with ht | ⟨m, hm, e, hbm⟩ | ⟨ht, hsa⟩
      · exact .inl ht
      · refine .inr (.inl ?_)
        rcases DState.mem_mems.mp hm with hm | rfl
        · exact ⟨m, DState.mem_mems.mpr (.inl hm), e, hbm⟩
        · exact ⟨_, DState.mem_mems.mpr (.inr rfl), e, List.mem_append_left _ hbm⟩
      · -- the pending batch now lives in the active memtable, paired with the active segment
        rw [hp] at ht; cases ht
        exact .inr (.inl ⟨_, DState.mem_mems.mpr (.inr rfl), hS.actWal.trans hsa.symm, by simp⟩)
  | rotate =>
    have hpn := hns rfl
    refine ⟨?_, ?_⟩
    · intro s hs hge b hb
      rcases List.mem_append.mp hs with hs | hs
      · rcases h.pairing s hs hge b hb with ht | ⟨m, hm, e, hbm⟩ | ⟨ht, _⟩
        · exact .inl ht
        · exact .inr (.inl ⟨m, DState.mem_mems.mpr (.inl hm), e, hbm⟩)
        · rw [hpn] at ht; cases ht
      · cases List.mem_singleton.mp hs; cases hb
    · exact fun b hb => (h.safe b hb).imp_right fun ⟨s, hs, hb⟩ => ⟨s, List.mem_append_left _ hs, hb⟩
  | flushOldest =>
    have hS' := hS.step .flushOldest
    simp only [DState.step] at hS' ⊢
    cases hi : d.imms with
    | nil => exact h
    | cons m rest =>
      simp only [hi] at hS'
      -- a record is flushed with `m`, or sits in a segment above `m.wal` (where the other memtables are paired)
      have hpair : ∀ s ∈ d.segs, s.1 ≥ d.logNumber → ∀ b ∈ s.2, b ∈ d.tables ++ m.batches ∨ m.wal + 1 ≤ s.1 ∧
          ((∃ m' ∈ rest ++ [d.memActive], m'.wal = s.1 ∧ b ∈ m'.batches) ∨ (d.pending = some b ∧ s.1 = d.active)) := by
        intro s hs hge b hb
        rcases h.pairing s hs hge b hb with ht | ⟨m', hm', e, hbm⟩ | ⟨h', hsa⟩
        · exact .inl (List.mem_append_left _ ht)
        · rcases (DState.mem_mems_cons hi).mp hm' with rfl | hm'
          · exact .inl (List.mem_append_right _ hbm)
          · have := (hS'.memWal (DState.mem_mems.mpr hm')).1
            exact .inr ⟨Nat.le_trans this (Nat.le_of_eq e), .inl ⟨m', by simpa using hm', e, hbm⟩⟩
        · exact .inr ⟨Nat.le_trans hS'.logLe.1 (Nat.le_of_eq hsa.symm), .inr ⟨h', hsa⟩⟩
      refine ⟨?_, ?_⟩
      · intro s hs hge b hb
        have hge : m.wal + 1 ≤ s.1 := hge
        have hlog : d.logNumber ≤ m.wal := hS.logLe.2 m (hi ▸ List.mem_cons_self ..)
        exact (hpair s hs (Nat.le_trans hlog (Nat.le_trans (Nat.le_succ _) hge)) b hb).imp_right (·.2)
      · intro b hb
        rcases h.safe b hb with ht | ⟨s, hs, hge, hbs⟩
        · exact .inl (List.mem_append_left _ ht)
        · exact (hpair s hs hge b hbs).imp_right fun hp => ⟨s, hs, hp.1, hbs⟩
  | cleanupWal =>
    refine ⟨fun s hs => h.pairing s (List.mem_filter.mp hs).1, ?_⟩
    exact fun b hb => (h.safe b hb).imp_right fun ⟨s, hs, hge, hbs⟩ =>
      ⟨s, List.mem_filter.mpr ⟨hs, decide_eq_true hge⟩, hge, hbs⟩

theorem noStraddle_cons {d : DState} {op : DOp} {ops : List DOp} (h : noStraddle d.pending.isSome (op :: ops) = true) :
    (op = .rotate → d.pending = none) ∧ noStraddle (d.step op).pending.isSome ops = true := by
  obtain ⟨segs, active, logNumber, tables, memActive, imms, acked, pending, next⟩ := d
  cases op with
  | walAppend => cases pending <;> exact ⟨nofun, h⟩
  | applyAck => cases pending <;> exact ⟨nofun, h⟩
  | rotate =>
    cases pending with
    | none => exact ⟨fun _ => rfl, h⟩
    | some _ => cases h
  | flushOldest => cases imms <;> exact ⟨nofun, h⟩
  | cleanupWal => exact ⟨nofun, h⟩

theorem Pair.run {d : DState} (hS : Shape d) (h : Pair d) (ops : List DOp)
    (hns : noStraddle d.pending.isSome ops = true) : Pair (d.run ops) := by
  induction ops generalizing d with
  | nil => exact h
  | cons op ops ih => exact ih (hS.step op) (h.step hS op (noStraddle_cons hns).1) (noStraddle_cons hns).2

theorem DInv.reach (ops : List DOp) (hns : noStraddle false ops = true) : DInv (DState.run {} ops) :=
  .of_shape (.reach ops) (Pair.run .init .init ops hns)

structure Own2 (d : D2) : Prop where
  memLogged : ∀ m ∈ d.mems, ∀ b ∈ m.batches, inSeg d.segs m.wal b
  ackedSomewhere : ∀ b ∈ d.acked, b ∈ d.tables ∨ ∃ m ∈ d.mems, b ∈ m.batches
  pendLogged : ∀ b, d.pending = some b → d.pendSeg ≤ d.active ∧ (d.pendSeg = d.active → inSeg d.segs d.active b)

/-- `Shape` and `Own2` flattened (`segLt`, `tabLt`, `memLt`, `pendLt` of `Shape` regrouped as `written`) -/
structure Inv2 (d : D2) : Prop where
  actWal : d.memActive.wal = d.active
  actSeg : ∃ r, (d.active, r) ∈ d.segs
  segLe : ∀ s ∈ d.segs, s.1 ≤ d.active
  immLt : ∀ m ∈ d.imms, m.wal < d.active
  immSorted : (d.imms.map (·.wal)).Pairwise (· < ·)
  logLe : d.logNumber ≤ d.active ∧ ∀ m ∈ d.imms, d.logNumber ≤ m.wal
  memLogged : ∀ m ∈ d.mems, ∀ b ∈ m.batches, ∃ s ∈ d.segs, s.1 = m.wal ∧ b ∈ s.2
  ackedSomewhere : ∀ b ∈ d.acked, b ∈ d.tables ∨ ∃ m ∈ d.mems, b ∈ m.batches
  pendLogged : ∀ b, d.pending = some b → d.pendSeg ≤ d.active ∧
    (d.pendSeg = d.active → ∃ s ∈ d.segs, s.1 = d.active ∧ b ∈ s.2)
  written : (∀ s ∈ d.segs, ∀ b ∈ s.2, b < d.next) ∧ (∀ b ∈ d.tables, b < d.next) ∧
    (∀ m ∈ d.mems, ∀ b ∈ m.batches, b < d.next) ∧ (∀ b, d.pending = some b → b < d.next)
  ackedOrPending : ∀ b, b < d.next → b ∈ d.acked ∨ d.pending = some b

theorem Inv2.of_shape {d : D2} (hs : Shape d.toD) (h : Own2 d) : Inv2 d :=
  ⟨hs.actWal, hs.actSeg, hs.segLe, hs.immLt, hs.immSorted, hs.logLe, h.memLogged, h.ackedSomewhere, h.pendLogged,
    ⟨hs.segLt, hs.tabLt, hs.memLt, hs.pendLt⟩, hs.ackedOrPending⟩

theorem Own2.init : Own2 {} :=
  ⟨fun m hm b hb => (by cases List.mem_singleton.mp hm; cases hb), nofun, nofun⟩

theorem Own2.step {d : D2} (hS : Shape d.toD) (h : Own2 d) (op : DOp) : Own2 (d.step op) := by
  obtain ⟨r, hr⟩ := hS.actSeg
  cases op with
  | walAppend =>
    simp only [D2.step]
    cases hp : d.pending with
    | some b => exact h
    | none =>
      refine ⟨fun m hm b hb => inSeg.appendSeg (h.memLogged m hm b hb), h.ackedSomewhere, ?_⟩
      intro b hb
      cases hb
      exact ⟨Nat.le_refl _, fun _ => inSeg_appendSeg_self hr⟩
  | applyAck =>
    simp only [D2.step]
    cases hp : d.pending with
    | none => exact h
    | some b0 =>
      have hkeep : ∀ i x, inSeg d.segs i x →
          inSeg (if d.pendSeg < d.memActive.wal then appendSeg d.segs d.active b0 else d.segs) i x := by
        intro i x hx
        split
        · exact hx.appendSeg
        · exact hx
      have hb0 : inSeg (if d.pendSeg < d.memActive.wal then appendSeg d.segs d.active b0 else d.segs) d.active b0 := by
        split
        · exact inSeg_appendSeg_self hr
        · exact (h.pendLogged b0 hp).2 (by have := (h.pendLogged b0 hp).1; have : d.memActive.wal = d.active := hS.actWal; omega)
      refine ⟨?_, ?_, nofun⟩
      · intro m hm b hb
        rcases D2.mem_mems.mp hm with hm | rfl
        · exact hkeep _ _ (h.memLogged m (D2.mem_mems.mpr (.inl hm)) b hb)
        · rcases List.mem_append.mp hb with hb | hb
          · exact hkeep _ _ (h.memLogged _ (D2.mem_mems.mpr (.inr rfl)) b hb)
          · cases List.mem_singleton.mp hb
            exact hS.actWal ▸ hb0
      · intro b hb
        rcases List.mem_append.mp hb with hb | hb
        · refine (h.ackedSomewhere b hb).imp_right fun ⟨m, hm, hbm⟩ => ?_
          rcases D2.mem_mems.mp hm with hm | rfl
          · exact ⟨m, D2.mem_mems.mpr (.inl hm), hbm⟩
          · exact ⟨_, D2.mem_mems.mpr (.inr rfl), List.mem_append_left _ hbm⟩
        · cases List.mem_singleton.mp hb
          exact .inr ⟨_, D2.mem_mems.mpr (.inr rfl), by simp⟩
  | rotate =>
    refine ⟨?_, ?_, ?_⟩
    · intro m hm b hb
      rcases D2.mem_mems.mp hm with hm | rfl
      · exact inSeg.append (h.memLogged m hm b hb)
      · cases hb
    · exact fun b hb => (h.ackedSomewhere b hb).imp_right fun ⟨m, hm, hbm⟩ => ⟨m, D2.mem_mems.mpr (.inl hm), hbm⟩
    · intro b hb
      have hle : d.pendSeg ≤ d.active := (h.pendLogged b hb).1
      exact ⟨Nat.le_succ_of_le hle, fun he => absurd he (Nat.ne_of_lt (Nat.lt_succ_of_le hle))⟩
  | flushOldest =>
    simp only [D2.step]
    cases hi : d.imms with
    | nil => exact h
    | cons m rest =>
      refine ⟨fun m' hm' => h.memLogged m' ?_, ?_, h.pendLogged⟩
      · exact (DState.mem_mems_cons (d := d.toD) hi).mpr (.inr (D2.mem_mems.mp hm'))
      · intro b hb
        rcases h.ackedSomewhere b hb with ht | ⟨m', hm', hbm⟩
        · exact .inl (List.mem_append_left _ ht)
        · rcases (DState.mem_mems_cons (d := d.toD) hi).mp hm' with rfl | hm'
          · exact .inl (List.mem_append_right _ hbm)
          · exact .inr ⟨m', D2.mem_mems.mpr hm', hbm⟩
  | cleanupWal =>
    refine ⟨fun m hm b hb => inSeg.filter (h.memLogged m hm b hb) (hS.memWal hm).1, h.ackedSomewhere, ?_⟩
    exact fun b hb => ⟨(h.pendLogged b hb).1, fun he => inSeg.filter ((h.pendLogged b hb).2 he) hS.logLe.1⟩

theorem Own2.run {d : D2} (hS : Shape d.toD) (h : Own2 d) (ops : List DOp) : Own2 (d.run ops) := by
  induction ops generalizing d with
  | nil => exact h
  | cons op ops ih => exact ih (hS.step2 op) (h.step hS op)

theorem Inv2.reach (ops : List DOp) : Inv2 (D2.run {} ops) :=
  .of_shape (.reach2 ops) (Own2.run (d := {}) .init .init ops)

theorem acked_recoverable {d : D2} (hS : Shape d.toD) (h : Inv2 d) {b : Nat} (hb : b ∈ d.acked) : b ∈ d.recover := by
  rcases h.ackedSomewhere b hb with ht | ⟨m, hm, hbm⟩
  · exact D2.mem_recover.mpr (.inl ht)
  · exact D2.mem_recover.mpr (.inr (inSeg.above (h.memLogged m hm b hbm) (hS.memWal hm).1))
