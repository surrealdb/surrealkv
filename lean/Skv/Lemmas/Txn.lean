import Skv.Model.Txn
import Skv.Spec.Overlay
import Skv.Lemmas.ListAux
/-!
Lemmas for C08.  The write set is read as a finite map through `entriesOf`; `TxInv` relates it to
the frame stack and is preserved by each update of the state as such.  The checks an operation makes
first only select the update: the `_ok` equations name it when they pass, `ite_rel` and `ite_fst`
walk through them.
-/

open Txn
def entryView (e : Entry) : Option Val := if e.kind.isTomb then none else e.value
def wView (w : W) : Option Val := if w.kind.isTomb then none else w.value

/-- what a read of `k` would see if only savepoint levels `≤ d` existed -/
def viewUpTo (es : List Entry) (d : Nat) : Option (Option Val) :=
  ((es.filter (fun e => e.sp ≤ d)).getLast?).map entryView

def specUpTo (frames : List (List W)) (k : Key) : Option (Option Val) :=
  (frames.flatten.find? (fun w => w.key == k)).map wView

def entriesOf (ws : List (Key × List Entry)) (k : Key) : List Entry := (lookup ws k).getD []

def KeysNodup (ws : List (Key × List Entry)) : Prop := (ws.map (·.1)).Nodup

/-- `lookup ws k` unfolds to `List.aget ws k` -/
theorem lookup_cons (p : Key × List Entry) (ws) (k : Key) :
    lookup (p :: ws) k = if k = p.1 then some p.2 else lookup ws k := List.aget_cons p ws k

theorem entriesOf_nil (k : Key) : entriesOf [] k = [] := rfl

theorem entriesOf_cons (p : Key × List Entry) (ws) (k : Key) :
    entriesOf (p :: ws) k = if k = p.1 then p.2 else entriesOf ws k := by
  unfold entriesOf; rw [lookup_cons]; split <;> rfl

theorem entriesOf_of_not_mem {ws : List (Key × List Entry)} {k : Key}
    (h : k ∉ ws.map (·.1)) : entriesOf ws k = [] :=
  congrArg (·.getD []) (List.aget_eq_none_iff.mpr h)

theorem lookup_upsert (ws : List (Key × List Entry)) (k k' : Key) (f) :
    lookup (upsert ws k f) k' = if k' = k then some (f (lookup ws k)) else lookup ws k' := by
  induction ws with
  | nil => exact lookup_cons ..
  | cons p ws ih =>
    by_cases h : p.1 = k
    · rw [upsert, if_pos (beq_iff_eq.mpr h), lookup_cons, lookup_cons, lookup_cons, if_pos h.symm, ← h]
      split <;> rfl
    · rw [upsert, if_neg (mt eq_of_beq h), lookup_cons, ih, lookup_cons, lookup_cons, if_neg (Ne.symm h)]
      by_cases hk : k' = k
      · rw [if_pos hk, if_pos hk, if_neg (hk ▸ Ne.symm h)]
      · rw [if_neg hk, if_neg hk]

theorem entriesOf_upsert (ws : List (Key × List Entry)) (k k' : Key) (f) :
    entriesOf (upsert ws k f) k' = if k' = k then f (lookup ws k) else entriesOf ws k' := by
  unfold entriesOf
  rw [lookup_upsert]
  split <;> rfl

theorem upsert_keys_nodup {ws : List (Key × List Entry)} {k : Key} {f}
    (h : (ws.map (·.1)).Nodup) : ((upsert ws k f).map (·.1)).Nodup := by
  induction ws with
  | nil => exact List.pairwise_singleton _ _
  | cons p ws ih =>
    obtain ⟨k0, es⟩ := p
    rw [List.map_cons, List.nodup_cons] at h
    rw [upsert]
    split
    · exact List.nodup_cons.mpr h
    · rename_i hk
      refine List.nodup_cons.mpr ⟨List.aget_eq_none_iff.mp ?_, ih h.2⟩
      show lookup (upsert ws k f) k0 = none
      rw [lookup_upsert, if_neg fun e : k0 = k => hk (e ▸ beq_self_eq_true _)]
      exact List.aget_eq_none_iff.mpr h.1

/-- the write set `rollback_to_savepoint` leaves at level `n` (`retain` per key, then emptied keys) -/
def dropLevel (n : Nat) (ws : List (Key × List Entry)) : List (Key × List Entry) :=
  (ws.map (fun (p : Key × List Entry) => (p.1, p.2.filter (fun e => e.sp != n)))).filter
    (fun p => !p.2.isEmpty)

theorem dropLevel_cons (n : Nat) (k0 : Key) (es : List Entry) (ws) :
    dropLevel n ((k0, es) :: ws) = if (es.filter (fun e => e.sp != n)).isEmpty then dropLevel n ws
      else (k0, es.filter (fun e => e.sp != n)) :: dropLevel n ws := by
  unfold dropLevel
  rw [List.map_cons, List.filter_cons]
  cases (List.filter (fun e => e.sp != n) es).isEmpty <;> rfl

theorem dropLevel_keys_sublist {n : Nat} {ws : List (Key × List Entry)} :
    ((dropLevel n ws).map (·.1)).Sublist (ws.map (·.1)) := by
  induction ws with
  | nil => exact .slnil
  | cons p ws ih =>
    obtain ⟨k0, es⟩ := p
    rw [dropLevel_cons]; split
    · exact ih.cons _
    · exact ih.cons_cons _

theorem entriesOf_dropLevel {ws : List (Key × List Entry)} (hnd : (ws.map (·.1)).Nodup) (n : Nat) (k : Key) :
    entriesOf (dropLevel n ws) k = (entriesOf ws k).filter (fun e => e.sp != n) := by
  induction ws with
  | nil => rfl
  | cons p ws ih =>
    obtain ⟨k0, es⟩ := p
    rw [List.map_cons, List.nodup_cons] at hnd
    rw [dropLevel_cons, entriesOf_cons]
    split
    · rename_i hem
      rw [ih hnd.2]; split
      · subst_vars; rw [entriesOf_of_not_mem hnd.1, List.isEmpty_iff.mp hem]; rfl
      · rfl
    · rw [entriesOf_cons, ih hnd.2]; split <;> rfl

/-- `rest` is the trailing entry of `e`'s level that the rule replaces, if there is one -/
theorem pushRule_eq (e : Entry) (o : Option (List Entry)) :
    ∃ pre rest, o.getD [] = pre ++ rest ∧ (∀ x ∈ rest, x.sp = e.sp) ∧ pushRule e o = pre ++ [e] := by
  have keep (es : List Entry) :
      ∃ pre rest, es = pre ++ rest ∧ (∀ x ∈ rest, x.sp = e.sp) ∧ es ++ [e] = pre ++ [e] :=
    ⟨es, [], (List.append_nil _).symm, fun _ h => (nomatch h), rfl⟩
  unfold pushRule
  cases o with
  | none => exact keep []
  | some es =>
    rcases List.eq_nil_or_concat es with rfl | ⟨ys, l, rfl⟩
    · exact keep []
    · simp only [List.concat_eq_append, List.getLast?_concat, List.dropLast_concat]
      cases hsp : l.sp == e.sp
      · exact keep _
      · cases l.ts != 0 && e.ts != 0 && l.ts != e.ts
        · exact ⟨ys, [l], rfl, fun x hx => List.mem_singleton.mp hx ▸ eq_of_beq hsp, rfl⟩
        · exact keep _

theorem pushRule_ne (e : Entry) (o) : pushRule e o ≠ [] := by
  obtain ⟨pre, _, -, -, h⟩ := pushRule_eq e o
  simp [h]

theorem pushRule_last (e : Entry) (o) : (pushRule e o).getLast? = some e := by
  obtain ⟨pre, _, -, -, h⟩ := pushRule_eq e o
  simp [h]

theorem pushRule_mem {e : Entry} {o} {x : Entry} (hx : x ∈ pushRule e o) : x = e ∨ x ∈ o.getD [] := by
  obtain ⟨pre, rest, ho, -, h⟩ := pushRule_eq e o
  rw [h, List.mem_append, List.mem_singleton] at hx
  rw [ho, List.mem_append]
  exact hx.symm.imp_right .inl

theorem pushRule_pairwise {R : Entry → Entry → Prop} {e : Entry} {o}
    (hs : (o.getD []).Pairwise R) (he : ∀ x ∈ o.getD [], R x e) : (pushRule e o).Pairwise R := by
  obtain ⟨pre, rest, ho, -, h⟩ := pushRule_eq e o
  rw [ho] at hs he
  rw [h]
  exact List.pairwise_append.mpr ⟨(List.pairwise_append.mp hs).1, List.pairwise_singleton _ _,
    fun a ha b hb => List.mem_singleton.mp hb ▸ he a (List.mem_append_left _ ha)⟩

theorem viewUpTo_eq_last {es : List Entry} {d : Nat} (h : ∀ e ∈ es, e.sp ≤ d) :
    viewUpTo es d = es.getLast?.map entryView := by
  rw [viewUpTo, List.filter_eq_self.mpr (by simpa using h)]

theorem viewUpTo_append_gt (l : List Entry) {r : List Entry} {d : Nat} (h : ∀ x ∈ r, d < x.sp) :
    viewUpTo (l ++ r) d = viewUpTo l d := by
  have hr : r.filter (fun e => decide (e.sp ≤ d)) = [] := List.filter_eq_nil_iff.mpr (by simpa using h)
  rw [viewUpTo, List.filter_append, hr, List.append_nil]
  rfl

theorem viewUpTo_filter {es : List Entry} {d : Nat} (p : Entry → Bool)
    (h : ∀ e ∈ es, e.sp ≤ d → p e = true) : viewUpTo (es.filter p) d = viewUpTo es d := by
  unfold viewUpTo
  rw [List.filter_filter]
  congr 2
  apply List.filter_congr
  intro e he
  by_cases hd : e.sp ≤ d
  · simp [hd, h e he hd]
  · simp [hd]

theorem viewUpTo_pushRule_lt {e : Entry} {o} {d : Nat} (hd : d < e.sp) :
    viewUpTo (pushRule e o) d = viewUpTo (o.getD []) d := by
  obtain ⟨pre, rest, ho, hr, h⟩ := pushRule_eq e o
  rw [h, ho, viewUpTo_append_gt, viewUpTo_append_gt]
  · intro x hx; rw [hr x hx]; exact hd
  · intro x hx; rw [List.mem_singleton.mp hx]; exact hd

theorem specUpTo_cons_cons (w : W) (f : List W) (fs : List (List W)) (k : Key) :
    specUpTo ((w :: f) :: fs) k = if k = w.key then some (wView w) else specUpTo (f :: fs) k := by
  rw [specUpTo, List.flatten_cons, List.cons_append, List.find?_cons]
  by_cases h : k = w.key
  · rw [if_pos h, h, beq_self_eq_true]; rfl
  · rw [if_neg h, beq_false_of_ne (Ne.symm h)]; rfl

theorem specUpTo_map_nil (fs : List (List W)) (k : Key) : specUpTo (fs.map (fun _ => [])) k = none := by
  induction fs with
  | nil => rfl
  | cons _ fs ih => exact ih

theorem Spec.get_eq (s : Spec) (k : Key) : s.get k = specUpTo s.frames k := by
  unfold Spec.get Spec.log specUpTo wView
  cases List.find? (fun w => w.key == k) s.frames.flatten with
  | none => rfl
  | some w => by_cases h : w.kind.isTomb = true <;> simp [h]

theorem Spec.get_write_self (s : Spec) (w : W) : (s.write w).get w.key = some (wView w) := by
  rw [Spec.get_eq, Spec.write]
  split <;> simp [specUpTo]

/-- `view`, for `j` frames popped: the key's newest entry of level `≤ savepoints - j` reads like its newest
write in the remaining frames (`specUpTo` looks through all the frames it is given; `j = 0` is `get`). -/
structure TxInv (t : Txn) (s : Spec) : Prop where
  nodup : (t.ws.map (·.1)).Nodup
  len : s.frames.length = t.savepoints + 1
  spLe : ∀ k e, e ∈ entriesOf t.ws k → e.sp ≤ t.savepoints
  sorted : ∀ k, (entriesOf t.ws k).Pairwise (fun a b => a.sp ≤ b.sp)
  view : ∀ j, j ≤ t.savepoints → ∀ k,
    viewUpTo (entriesOf t.ws k) (t.savepoints - j) = specUpTo (s.frames.drop j) k

theorem inv_congr {t t' : Txn} {s : Spec} (h : TxInv t s) (hws : t'.ws = t.ws)
    (hsp : t'.savepoints = t.savepoints) : TxInv t' s :=
  ⟨hws ▸ h.nodup, hsp ▸ h.len, hws ▸ hsp ▸ h.spLe, hws ▸ h.sorted, hws ▸ hsp ▸ h.view⟩

theorem inv_frames {t : Txn} {s : Spec} (h : TxInv t s) :
    ∃ f fs, s.frames = f :: fs ∧ fs.length = t.savepoints := by
  have := h.len
  cases hf : s.frames with
  | nil => simp [hf] at this
  | cons f fs => exact ⟨f, fs, rfl, by simpa [hf] using this⟩

theorem inv_last {t : Txn} {s : Spec} (h : TxInv t s) (k : Key) :
    (entriesOf t.ws k).getLast?.map entryView = s.get k := by
  rw [Spec.get_eq, ← viewUpTo_eq_last (h.spLe k)]
  exact h.view 0 (Nat.zero_le _) k

theorem inv_empty {c : Bool} {m : Mode} {n : Nat} : TxInv ⟨m, c, 0, n, []⟩ Spec.start := by
  refine ⟨List.nodup_nil, rfl, fun _ _ h => (nomatch h), fun _ => .nil, fun j hj k => ?_⟩
  rw [Nat.le_zero.mp hj]; rfl

theorem inv_upsert {t : Txn} {s : Spec} (h : TxInv t s) (e : Entry) (he : e.sp = t.savepoints) {n : Nat} :
    TxInv { t with writeSeqno := n, ws := upsert t.ws e.key (pushRule e) }
      (s.write ⟨e.key, e.value, e.kind, e.ts⟩) := by
  obtain ⟨f, fs, hfr, -⟩ := inv_frames h
  have hsw : (s.write ⟨e.key, e.value, e.kind, e.ts⟩).frames = (⟨e.key, e.value, e.kind, e.ts⟩ :: f) :: fs := by
    simp [Spec.write, hfr]
  have hold : ∀ x ∈ entriesOf t.ws e.key, x.sp ≤ e.sp := fun x hx => he ▸ h.spLe _ x hx
  have hnew : ∀ x ∈ pushRule e (lookup t.ws e.key), x.sp ≤ t.savepoints := fun x hx =>
    (pushRule_mem hx).elim (fun hx => Nat.le_of_eq (hx ▸ he)) (fun hx => he ▸ hold x hx)
  refine ⟨upsert_keys_nodup h.nodup, by rw [hsw, ← h.len, hfr]; rfl, fun k x hx => ?_, fun k => ?_,
    fun j hj k => ?_⟩
  · rw [entriesOf_upsert] at hx
    split at hx
    · exact hnew x hx
    · exact h.spLe k x hx
  · rw [entriesOf_upsert]
    split
    · exact pushRule_pairwise (h.sorted _) hold
    · exact h.sorted k
  · -- for `j + 1` the goal is `hv`: `drop (j+1)` of new and old frames both compute to `drop j fs`
    have hv := h.view j hj k
    rw [hfr] at hv
    dsimp only at hj ⊢  -- projections of the updated record
    rw [entriesOf_upsert, hsw]
    by_cases hk : k = e.key
    · rw [if_pos hk]
      cases j with
      | zero =>
        rw [List.drop_zero, specUpTo_cons_cons, if_pos hk, Nat.sub_zero, viewUpTo_eq_last hnew, pushRule_last]
        rfl
      | succ j =>
        rw [viewUpTo_pushRule_lt (by rw [he]; exact Nat.sub_lt_of_pos_le (Nat.succ_pos j) hj)]
        exact hk ▸ hv
    · rw [if_neg hk]
      cases j with
      | zero => rw [List.drop_zero, specUpTo_cons_cons, if_neg hk]; exact hv
      | succ j => exact hv

theorem inv_pushSp {t : Txn} {s : Spec} (h : TxInv t s) :
    TxInv { t with savepoints := t.savepoints + 1 } s.setSavepoint := by
  refine ⟨h.nodup, by simp [Spec.setSavepoint, h.len], fun k e he => Nat.le_succ_of_le (h.spLe k e he),
    h.sorted, fun j hj k => ?_⟩
  cases j with
  | zero =>
    show viewUpTo _ (t.savepoints + 1) = specUpTo s.frames k
    rw [viewUpTo_eq_last (fun e he => Nat.le_succ_of_le (h.spLe k e he)), ← viewUpTo_eq_last (h.spLe k)]
    exact h.view 0 (Nat.zero_le _) k
  | succ j =>
    have := h.view j (Nat.le_of_succ_le_succ hj) k
    rwa [← Nat.add_sub_add_right _ 1 j] at this

theorem inv_dropLevel {t : Txn} {s : Spec} (h : TxInv t s) (hsp : 0 < t.savepoints) :
    ∃ s', s.rollbackToSavepoint = some s' ∧
      TxInv { t with ws := dropLevel t.savepoints t.ws, savepoints := t.savepoints - 1 } s' := by
  obtain ⟨f0, fs, hfr, hl⟩ := inv_frames h
  obtain ⟨f1, fs, rfl⟩ : ∃ f1 fs', fs = f1 :: fs' := by
    cases fs with
    | nil => exact absurd hl (Nat.ne_of_lt hsp)
    | cons f1 fs => exact ⟨f1, fs, rfl⟩
  refine ⟨⟨f1 :: fs⟩, by rw [Spec.rollbackToSavepoint, hfr], dropLevel_keys_sublist.nodup h.nodup,
    by rw [← hl]; rfl, fun k e he => ?_, fun k => ?_, fun j hj k => ?_⟩
  · rw [entriesOf_dropLevel h.nodup, List.mem_filter] at he
    exact Nat.le_sub_one_of_lt (Nat.lt_of_le_of_ne (h.spLe k e he.1) (bne_iff_ne.mp he.2))
  · rw [entriesOf_dropLevel h.nodup]
    exact (h.sorted k).sublist List.filter_sublist
  · -- depth `j` after the pop is depth `j + 1` before; `drop (j+1)` of the old frames computes to `drop j` of the new
    have hv := h.view (j + 1) (Nat.add_le_of_le_sub hsp hj) k
    rw [hfr, Nat.sub_add_eq, Nat.sub_right_comm] at hv
    rw [entriesOf_dropLevel h.nodup, viewUpTo_filter]
    · exact hv
    · intro e _ hd
      exact bne_iff_ne.mpr (Nat.ne_of_lt (Nat.lt_of_le_of_lt (Nat.le_trans hd (Nat.sub_le _ _))
        (Nat.sub_one_lt (Nat.ne_of_gt hsp))))

theorem inv_rollback_none {t : Txn} {s : Spec} (h : TxInv t s) (hsp : t.savepoints = 0) :
    s.rollbackToSavepoint = none := by
  obtain ⟨f, fs, hfr, hl⟩ := inv_frames h
  rw [hsp, List.length_eq_zero_iff] at hl
  rw [Spec.rollbackToSavepoint, hfr, hl]

theorem inv_clear {t : Txn} {s : Spec} (h : TxInv t s) :
    TxInv { t with ws := [] } ⟨s.frames.map (fun _ => [])⟩ := by
  refine ⟨List.nodup_nil, by simpa using h.len, fun _ _ h => (nomatch h), fun _ => .nil, fun j _ k => ?_⟩
  show _ = specUpTo ((s.frames.map (fun _ => [])).drop j) k
  rw [← List.map_drop, specUpTo_map_nil]; rfl

theorem write_ok {t : Txn} {k : Key} (v : Option Val) (kind : Kind) (ts : Nat)
    (hm : t.mode.mutable = true) (hc : t.closed = false) (hk : k.isEmpty = false) :
    t.write k v kind ts = ({ t with
      writeSeqno := t.writeSeqno + 1,
      ws := upsert t.ws k (pushRule ⟨k, v, kind, t.savepoints, t.writeSeqno + 1, ts⟩) }, .ok ()) := by
  simp [Txn.write, hm, hc, hk]

theorem setSavepoint_ok {t : Txn} (hm : t.mode.mutable = true) (hc : t.closed = false) :
    t.setSavepoint = ({ t with savepoints := t.savepoints + 1 }, .ok ()) := by
  simp [Txn.setSavepoint, hm, hc]

theorem rollbackToSavepoint_ok {t : Txn} (hm : t.mode.mutable = true) (hc : t.closed = false)
    (hsp : 0 < t.savepoints) : t.rollbackToSavepoint =
      ({ t with ws := dropLevel t.savepoints t.ws, savepoints := t.savepoints - 1 }, .ok ()) := by
  simp [Txn.rollbackToSavepoint, hm, hc, Nat.ne_of_gt hsp, dropLevel]

theorem Txn.get_eq (t : Txn) (k : Key) : t.get k =
    if t.closed then .error .closed else if k.isEmpty then .error .emptyKey
    else if t.mode == .writeOnly then .error .writeOnly
    else .ok ((entriesOf t.ws k).getLast?.map entryView) := by
  unfold Txn.get entriesOf
  congr 3
  cases lookup t.ws k with
  | none => rfl
  | some es =>
    simp only [Option.bind_some, Option.getD_some]
    cases es.getLast? with
    | none => rfl
    | some e => exact (apply_ite (fun x => (Except.ok (some x) : Except TErr _)) _ _ _).symm

theorem inv_write (t : Txn) (s : Spec) (h : TxInv t s) (k : Key) (v : Option Val) (kind : Kind) (ts : Nat)
    (hm : t.mode.mutable = true) (hc : t.closed = false) (hk : k.isEmpty = false) :
    TxInv (t.write k v kind ts).1 (s.write ⟨k, v, kind, ts⟩) := by
  rw [write_ok v kind ts hm hc hk]
  exact inv_upsert h ⟨k, v, kind, t.savepoints, t.writeSeqno + 1, ts⟩ rfl

theorem inv_setSavepoint (t : Txn) (s : Spec) (h : TxInv t s)
    (hm : t.mode.mutable = true) (hc : t.closed = false) :
    TxInv (t.setSavepoint).1 s.setSavepoint := by
  rw [setSavepoint_ok hm hc]
  exact inv_pushSp h

theorem inv_rollbackToSavepoint (t : Txn) (s : Spec) (h : TxInv t s)
    (hm : t.mode.mutable = true) (hc : t.closed = false) (hsp : 0 < t.savepoints) :
    ∃ s', s.rollbackToSavepoint = some s' ∧ TxInv (t.rollbackToSavepoint).1 s' := by
  rw [rollbackToSavepoint_ok hm hc hsp]
  exact inv_dropLevel h hsp

/-- read-your-writes: the write-set part of `get` equals the spec's view of the pending log -/
theorem get_refines (t : Txn) (s : Spec) (h : TxInv t s) (k : Key)
    (hc : t.closed = false) (hk : k.isEmpty = false) (hm : t.mode ≠ .writeOnly) :
    t.get k = .ok (s.get k) := by
  rw [Txn.get_eq, inv_last h, hc, hk, beq_eq_false_iff_ne.mpr hm]
  rfl

/-- `sim_step` is this lemma along the checks of each operation: model and specification make the
same tests in the same order, and in a failing branch neither state changes. -/
theorem ite_rel {α β : Type} {R : α → β → Prop} {c : Prop} [Decidable c] {a a' : α} {b b' : β}
    (h : c → R a b) (h' : ¬c → R a' b') : R (if c then a else a') (if c then b else b') := by
  split
  · exact h ‹_›
  · exact h' ‹_›

theorem ite_fst {α β : Type} {P : α → Prop} {c : Prop} [Decidable c] {a b : α × β}
    (h : c → P a.1) (h' : ¬c → P b.1) : P (if c then a else b).1 := by
  split
  · exact h ‹_›
  · exact h' ‹_›
