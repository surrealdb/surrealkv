import Skv.Lemmas.SstOrder
/-! the block seek, the partitioned index and the table-level seek of a well-formed table equal the
flat-list functions; for the point lookup: `specGet` on a sorted list is the entry at the seek
position (`specGet_eq_posGet`), and that entry lies in the block the index points at (`posGet_flatOf`) -/

/-! Any start index that is 0 or whose entry is below the target makes the linear scan land on
`firstGE`; the binary search only ever moves `left` to such an index, whatever the restart array
holds. -/

theorem scanFrom_eq {es : List Ent} (hs : sortedEnts es = true) {t : IKey} {i : Nat}
    (h : i = 0 ∨ ∃ e, es[i]? = some e ∧ ikLt e.k t = true) : scanFrom es t i = firstGE es t := by
  rcases h with rfl | ⟨e, he, hlt⟩
  · exact Nat.zero_add _
  · obtain ⟨hi, rfl⟩ := List.getElem?_eq_some_iff.mp he
    have hs' := sortedEnts_iff.mp hs
    rw [← List.take_append_drop i es, List.drop_eq_getElem_cons hi, List.pairwise_append] at hs'
    have hall : ∀ x ∈ es.take i, ikLt x.k t = true :=
      fun x hx => ikLt_trans (hs'.2.2 x hx _ List.mem_cons_self) hlt
    have := congrArg List.length (List.takeWhile_append_of_pos (l₂ := es.drop i) hall)
    rw [List.take_append_drop, List.length_append, List.length_take, Nat.min_eq_left (Nat.le_of_lt hi)] at this
    exact this.symm

theorem bsearch_inv (es : List Ent) (rs : List Nat) (t : IKey) (fuel left right : Nat)
    (h : left = 0 ∨ ∃ e, es[rs[left]?.getD 0]? = some e ∧ ikLt e.k t = true) :
    bsearch es rs t fuel left right = 0 ∨
      ∃ e, es[rs[bsearch es rs t fuel left right]?.getD 0]? = some e ∧ ikLt e.k t = true := by
  fun_induction bsearch es rs t fuel left right with
  | case1 => exact h
  | case2 fuel left right _ mid e he hlt ih => exact ih (.inr ⟨e, he, hlt⟩)
  | case3 fuel left right _ mid e he hlt ih => exact ih h
  | case4 => exact h
  | case5 => exact h

theorem blockSeek_eq {b : PBlock} (hs : sortedEnts b.ents = true) (hr : b.restarts.head? = some 0)
    (t : IKey) : blockSeek b t = firstGE b.ents t := by
  refine scanFrom_eq hs ?_
  rcases bsearch_inv b.ents b.restarts t b.restarts.length 0 (b.restarts.length - 1) (.inl rfl) with h | h
  · obtain ⟨rs, hrs⟩ := List.head?_eq_some_iff.mp hr
    exact .inl (by rw [h, hrs]; rfl)
  · exact .inr h

theorem flatOf_cons (b : PBlock) (bs : List PBlock) : flatOf (b :: bs) = b.ents ++ flatOf bs := rfl

theorem offsetOf_zero (bs : List PBlock) : offsetOf bs 0 = 0 := rfl

theorem offsetOf_cons_succ (b : PBlock) (bs : List PBlock) (j : Nat) :
    offsetOf (b :: bs) (j + 1) = b.ents.length + offsetOf bs j := List.length_append

theorem blocksOf_cons (p : Part) (L : Layout) : blocksOf (p :: L) = p ++ blocksOf L := rfl

theorem findPart_cons (p : Part) (L : Layout) (t : IKey) :
    findPart (p :: L) t = if partBelow t p then findPart L t + 1 else 0 := length_takeWhile_cons _ _ _

/-- what `blocksWF` says about the first block -/
structure HeadWF (b : PBlock) (rest : List PBlock) : Prop where
  sorted : sortedEnts b.ents = true
  allLe : ∀ e ∈ b.ents, ikLe e.k b.sep = true
  nonempty : b.ents ≠ []
  next : ∀ b' rest', rest = b' :: rest' → ∃ f l, b'.ents.head? = some f ∧ b.ents.getLast? = some l ∧
      ikLt b.sep f.k = true ∧ (b.sep = l.k ∨ b.sep.uk < f.k.uk)
  tail : blocksWF rest = true

theorem blocksWF_cons {b : PBlock} {rest : List PBlock} (h : blocksWF (b :: rest) = true) : HeadWF b rest := by
  have key : ∀ l, b.ents.getLast? = some l → ikLe l.k b.sep = true → sortedEnts b.ents = true →
      (∀ e ∈ b.ents, ikLe e.k b.sep = true) ∧ b.ents ≠ [] := fun l hl hle hs =>
    ⟨fun e he => ikLe_trans (sorted_le_last hs hl e he) hle, fun hn => by rw [hn] at hl; cases hl⟩
  cases hl : b.ents.getLast? with
  | none => cases rest <;> simp only [blocksWF, hl, Bool.false_and, Bool.false_eq_true] at h
  | some l =>
    cases rest with
    | nil =>
      simp only [blocksWF, hl, Bool.and_eq_true] at h
      obtain ⟨ha, hn⟩ := key l hl h.1 h.2
      exact ⟨h.2, ha, hn, fun _ _ hh => (nomatch hh), rfl⟩
    | cons b' rest' =>
      cases hf : b'.ents.head? with
      | none => simp only [blocksWF, hl, hf, Bool.false_and, Bool.false_eq_true] at h
      | some f =>
        simp only [blocksWF, hl, hf, Bool.and_eq_true, Bool.or_eq_true, beq_iff_eq, decide_eq_true_eq] at h
        obtain ⟨⟨⟨⟨h1a, h1b⟩, h1c⟩, h2⟩, h3⟩ := h
        obtain ⟨ha, hn⟩ := key l hl h1a h2
        exact ⟨h2, ha, hn, fun _ _ hh => by cases hh; exact ⟨f, l, hf, hl, h1b, h1c⟩, h3⟩

theorem blocksWF_append_right {pre s : List PBlock} (h : blocksWF (pre ++ s) = true) : blocksWF s = true := by
  induction pre with
  | nil => exact h
  | cons b pre ih => exact ih (blocksWF_cons h).tail

theorem blocksWF_mem {bs : List PBlock} (h : blocksWF bs = true) {b : PBlock} (hb : b ∈ bs) :
    sortedEnts b.ents = true ∧ (∀ e ∈ b.ents, ikLe e.k b.sep = true) ∧ b.ents ≠ [] := by
  obtain ⟨pre, rest, rfl⟩ := List.append_of_mem hb
  have hw := blocksWF_cons (blocksWF_append_right h)
  exact ⟨hw.sorted, hw.allLe, hw.nonempty⟩

/-- beyond a block whose separator is not below `(k, s)` while all its entries are, the next entry
has another user key: the separator is then not the block's last key, so its user key is strictly
below the next block's (what lets `Table::get` stop at the end of a block) -/
theorem HeadWF.next_uk_ne {b : PBlock} {rest : List PBlock} (hw : HeadWF b rest) {k : List Nat} {s : Nat}
    (hq : ikLt b.sep ⟨k, s⟩ = false) (hall : firstGE b.ents ⟨k, s⟩ = b.ents.length)
    {x : Ent} (hx : (flatOf rest).head? = some x) : x.k.uk ≠ k := by
  cases rest with
  | nil => cases hx
  | cons b' rest' =>
    obtain ⟨f, l, hf, hl, _, hg | hg⟩ := hw.next b' rest' rfl
    · have := length_takeWhile_eq_length.mp hall l (List.mem_of_getLast? hl)
      rw [← hg, hq] at this
      cases this
    · rw [flatOf_cons, List.head?_append, hf] at hx
      cases hx
      intro hfk
      exact List.lt_irrefl _ (List.lt_of_le_of_lt (uk_le_of_not_lt hq) (hfk ▸ hg))

theorem blocksWF_pairwise {bs : List PBlock} (h : blocksWF bs = true) :
    bs.Pairwise (fun b b' => ∀ e ∈ b'.ents, ikLt b.sep e.k = true) := by
  induction bs with
  | nil => exact .nil
  | cons b rest ih =>
    have hw := blocksWF_cons h
    have ih := ih hw.tail
    refine .cons (fun b' hb' e he => ?_) ih
    cases rest with
    | nil => cases hb'
    | cons c rest =>
      have hc := blocksWF_cons hw.tail
      obtain ⟨f, _, hf, _, hlt, _⟩ := hw.next c rest rfl
      rcases List.mem_cons.mp hb' with rfl | hb'
      · exact ikLt_of_lt_of_le hlt (sorted_head_le hc.sorted hf e he)
      · exact ikLt_trans (ikLt_of_lt_of_le hlt (hc.allLe f (List.mem_of_mem_head? hf)))
          ((List.pairwise_cons.mp ih).1 b' hb' e he)

theorem blocksWF_sep_pairwise {bs : List PBlock} (h : blocksWF bs = true) :
    bs.Pairwise (fun a b => ikLt a.sep b.sep = true) :=
  (blocksWF_pairwise h).imp_of_mem fun {a b} _ hb hab => by
    obtain ⟨_, hle, hne⟩ := blocksWF_mem h hb
    obtain ⟨e, he⟩ := List.exists_mem_of_ne_nil _ hne
    exact ikLt_of_lt_of_le (hab e he) (hle e he)

theorem sortedEnts_flatOf {bs : List PBlock} (h : blocksWF bs = true) : sortedEnts (flatOf bs) = true := by
  rw [sortedEnts_iff, flatOf, List.pairwise_flatten, List.pairwise_map]
  constructor
  · intro l hl
    obtain ⟨b, hb, rfl⟩ := List.mem_map.mp hl
    obtain ⟨hsorted, _, _⟩ := blocksWF_mem h hb
    exact sortedEnts_iff.mp hsorted
  · exact (blocksWF_pairwise h).imp_of_mem fun {a b} ha _ hab x hx y hy => by
      obtain ⟨_, hle, _⟩ := blocksWF_mem h ha
      exact ikLt_of_le_of_lt (hle x hx) (hab y hy)

theorem firstGEk_map_sep (bs : List PBlock) (t : IKey) :
    firstGEk (bs.map (·.sep)) t = (bs.takeWhile (fun b => ikLt b.sep t)).length := by
  rw [firstGEk, List.takeWhile_map, List.length_map]
  rfl

theorem firstGE_flatOf {bs : List PBlock} (h : blocksWF bs = true) (t : IKey) :
    (bs[firstGEk (bs.map (·.sep)) t]? = none → firstGE (flatOf bs) t = (flatOf bs).length) ∧
    ∀ b, bs[firstGEk (bs.map (·.sep)) t]? = some b →
      firstGE (flatOf bs) t = offsetOf bs (firstGEk (bs.map (·.sep)) t) + firstGE b.ents t := by
  rw [firstGEk_map_sep]
  -- `flatOf bs` is `bs.flatMap PBlock.ents`, `offsetOf bs j` the length of `(bs.take j).flatMap PBlock.ents`
  exact length_takeWhile_flatMap (fun e : Ent => ikLt e.k t) PBlock.ents (fun b => ikLt b.sep t) bs
    (fun b hb hq e he => by
      obtain ⟨_, hle, _⟩ := blocksWF_mem h hb
      exact ikLt_of_le_of_lt (hle e he) hq)
    ((blocksWF_pairwise h).imp fun hbc hq x hx => ikLt_false_of_lt (hbc x hx) hq)

theorem partBelow_eq_all {p : Part} (hp : p.Pairwise (fun a b => ikLt a.sep b.sep = true)) (t : IKey) :
    partBelow t p = p.all (fun b => ikLt b.sep t) := by
  unfold partBelow partTop
  cases hz : p.getLast? with
  | none => rw [List.getLast?_eq_none_iff.mp hz]; rfl
  | some z =>
    obtain ⟨ys, rfl⟩ := List.getLast?_eq_some_iff.mp hz
    have hlt := (List.pairwise_append.mp hp).2.2
    rw [Bool.eq_iff_iff, List.all_eq_true]
    exact ⟨fun h b hb => (List.mem_append.mp hb).elim (fun hb => ikLt_trans (hlt b hb z List.mem_cons_self) h)
      (fun hb => List.mem_singleton.mp hb ▸ h), fun h => h z (List.mem_append_right _ List.mem_cons_self)⟩

theorem idxSeek_eq {L : Layout} (hs : (blocksOf L).Pairwise (fun a b => ikLt a.sep b.sep = true)) (t : IKey) :
    idxSeek L t = firstGEk ((blocksOf L).map (·.sep)) t := by
  obtain ⟨hparts, hL⟩ := List.pairwise_flatten.mp hs
  have key := length_takeWhile_flatMap (fun b => ikLt b.sep t) id (partBelow t) L
    (fun p hp hq => List.all_eq_true.mp (partBelow_eq_all (hparts p hp) t ▸ hq))
    (hL.imp_of_mem fun {p p'} hp _ hpp hq x hx => by
      -- some separator `z` of `p` is not below `t`, and `x` comes after it
      rw [partBelow_eq_all (hparts p hp), List.all_eq_false] at hq
      obtain ⟨z, hz, hzt⟩ := hq
      exact ikLt_false_of_lt (hpp z hz x hx) (Bool.eq_false_iff.mpr hzt))
  -- `L.flatMap id` is `blocksOf L`, and every index is a `takeWhile` length
  simp only [List.flatMap_id] at key
  simp only [idxSeek, findPart, firstGEk_map_sep]
  cases hj : L[(L.takeWhile (partBelow t)).length]? with
  | none => exact (key.1 hj).symm
  | some p => exact (key.2 p hj).symm

theorem layoutWF_blocks {L : Layout} (h : layoutWF L = true) : blocksWF (blocksOf L) = true := by
  simp only [layoutWF, Bool.and_eq_true] at h
  exact h.1.2

theorem layoutWF_blockSeek {L : Layout} (h : layoutWF L = true) {b : PBlock} (hb : b ∈ blocksOf L) (t : IKey) :
    blockSeek b t = firstGE b.ents t := by
  obtain ⟨hs, _, _⟩ := blocksWF_mem (layoutWF_blocks h) hb
  simp only [layoutWF, Bool.and_eq_true, List.all_eq_true] at h
  have hr := h.2 b hb
  simp only [restartsWF, Bool.and_eq_true, beq_iff_eq] at hr
  exact blockSeek_eq hs hr.1.1 t

theorem tblSeek_eq {L : Layout} (h : layoutWF L = true) (t : IKey) :
    tblSeek L t = firstGE (flatOf (blocksOf L)) t := by
  have hb := layoutWF_blocks h
  rw [tblSeek, idxSeek_eq (blocksWF_sep_pairwise hb)]
  cases hj : (blocksOf L)[firstGEk ((blocksOf L).map (·.sep)) t]? with
  | none => exact ((firstGE_flatOf hb t).1 hj).symm
  | some b => rw [(firstGE_flatOf hb t).2 b hj, ← layoutWF_blockSeek h (List.mem_of_getElem? hj)]

/-- the entry at the seek position, if it has the right user key (the shape of `Table::get`) -/
def posGet (es : List Ent) (k : List Nat) (s : Nat) : Option Ent :=
  match es[firstGE es ⟨k, s⟩]? with
  | some e => if e.k.uk = k then some e else none
  | none => none

theorem specGet_eq_posGet {es : List Ent} (hs : sortedEnts es = true) (k : List Nat) (s : Nat) :
    specGet es k s = posGet es k s := by
  induction es with
  | nil => rfl
  | cons x xs ih =>
    have hxs := List.pairwise_cons.mp (sortedEnts_iff.mp hs)
    rw [specGet, posGet, firstGE_cons, List.find?_cons]
    cases hx : ikLt x.k ⟨k, s⟩ with
    | true =>
      have : (x.k.uk = k && decide (x.k.seq ≤ s)) = false := by
        rcases ikLt_iff.mp hx with h | ⟨h1, h2⟩
        · exact Bool.and_eq_false_imp.mpr fun hk => absurd (of_decide_eq_true hk ▸ h) (List.lt_irrefl _)
        · exact Bool.and_eq_false_imp.mpr fun _ => decide_eq_false (Nat.not_le.mpr h2)
      rw [this, if_pos rfl, List.getElem?_cons_succ]
      exact ih (sortedEnts_iff.mpr hxs.2)
    | false =>
      show _ = if x.k.uk = k then some x else none
      by_cases hxk : x.k.uk = k
      · have : x.k.seq ≤ s := Nat.not_lt.mp fun h => Bool.eq_false_iff.mp hx (ikLt_iff.mpr (.inr ⟨hxk, h⟩))
        rw [if_pos hxk, decide_eq_true hxk, decide_eq_true this]
        rfl
      · -- every user key from here on is above `k`
        have hk : k < x.k.uk := uk_lt_of_not_lt hx hxk
        have hnone : xs.find? (fun e => e.k.uk = k && decide (e.k.seq ≤ s)) = none :=
          List.find?_eq_none.mpr fun e he => by
            have hke := Std.lt_of_lt_of_le hk (uk_le_of_ikLe (ikLe_of_lt (hxs.1 e he)))
            rw [decide_eq_false fun h => List.lt_irrefl _ (h ▸ hke)]
            exact Bool.false_ne_true
        rw [if_neg hxk, decide_eq_false hxk, hnone]
        rfl

theorem posGet_flatOf {bs : List PBlock} (h : blocksWF bs = true) {k : List Nat} {s : Nat} {b : PBlock}
    (hj : bs[firstGEk (bs.map (·.sep)) ⟨k, s⟩]? = some b) : posGet (flatOf bs) k s = posGet b.ents k s := by
  have hq : ikLt b.sep ⟨k, s⟩ = false :=
    not_of_getElem?_length_takeWhile (fun b : PBlock => ikLt b.sep ⟨k, s⟩) (firstGEk_map_sep bs _ ▸ hj)
  have hw := blocksWF_cons (blocksWF_append_right (eq_take_append_cons_drop hj ▸ h))
  have hpos : (flatOf bs)[firstGE (flatOf bs) ⟨k, s⟩]? =
      (b.ents ++ flatOf (bs.drop (firstGEk (bs.map (·.sep)) ⟨k, s⟩ + 1)))[firstGE b.ents ⟨k, s⟩]? := by
    rw [(firstGE_flatOf h _).2 b hj]
    -- `flatOf` and `offsetOf` unfold to the `flatMap` forms of the lemma
    exact getElem?_flatMap_offset PBlock.ents hj _
  unfold posGet
  rw [hpos]
  rcases Nat.lt_or_ge (firstGE b.ents ⟨k, s⟩) b.ents.length with hi | hi
  · rw [List.getElem?_append_left hi]
  · have hi := Nat.le_antisymm (firstGE_le _ _) hi
    rw [hi, List.getElem?_append_right (Nat.le_refl _), Nat.sub_self,
      List.getElem?_eq_none (Nat.le_refl _), ← List.head?_eq_getElem?]
    cases hx : List.head? _ with
    | none => rfl
    | some x => exact if_neg (hw.next_uk_ne hq hi hx)
