import Skv.Lemmas.TxnIter

/-! the forward half of the transaction range cursor: `position_to_min`, hence the seeks, and `next`
with its direction-change prologue -/

variable {S : List Nat} {W : List (Nat × Bool)} {t : TI} {X K m : Nat}

theorem wsRemaining_next {c : Cur (Nat × Bool)} {b : Nat × Bool} (hb : c.cur? = some b) :
    wsRemaining c.next < wsRemaining c := by
  obtain ⟨xs, _ | ⟨l, x, _ | ⟨y, r⟩⟩⟩ := c
  · cases hb
  · exact Nat.zero_lt_succ _
  · exact Nat.lt_succ_self _

theorem wsRemaining_le {c : Cur (Nat × Bool)}
    (h : FSplit Prod.fst W X c.pos) : wsRemaining c ≤ W.length := by
  unfold wsRemaining
  cases hp : c.pos with
  | none => exact Nat.zero_le _
  | some z =>
    obtain ⟨l, x, r⟩ := z
    rw [hp] at h
    have := split_length h.1
    show r.length + 1 ≤ W.length
    omega

theorem LeastGE_shift {X' : Nat} {r : Option Nat} (h : LeastGE S W X' r) (hle : X ≤ X')
    (hgap : ∀ k, Live S W k → X ≤ k → X' ≤ k) : LeastGE S W X r := by
  cases r with
  | none => exact fun k hk => Nat.lt_of_not_le fun hx => Nat.not_lt.mpr (hgap k hk hx) (h k hk)
  | some K => exact ⟨h.1, Nat.le_trans hle h.2.1, fun k hk hx => h.2.2 k hk (hgap k hk hx)⟩

theorem posMin_succ (f : Nat) (t : TI) : TI.posMin (f + 1) t =
    match t.snap.cur?, t.ws.cur? with
    | none, none => { t with cur := .none, eq := false }
    | some _, none => { t with cur := .snap, eq := false }
    | none, some (_, tb) =>
      if tb then TI.posMin f { t with ws := t.ws.next } else { t with cur := .ws, eq := false }
    | some a, some (b, tb) =>
      if a < b then { t with cur := .snap, eq := false }
      else if b < a then
        if tb then TI.posMin f { t with ws := t.ws.next } else { t with cur := .ws, eq := false }
      else if tb then TI.posMin f { t with snap := t.snap.next, ws := t.ws.next }
      else { t with cur := .ws, eq := true } := by
  obtain ⟨⟨sxs, spos⟩, ⟨wxs, wpos⟩, eq, cur, dir⟩ := t
  rcases spos with _ | ⟨sl, a, sr⟩ <;> rcases wpos with _ | ⟨wl, ⟨b, tb⟩, wr⟩ <;> rfl

/-- both sources, facing forward, stand at the frontier `X` of their lists (the hypotheses of
`posMin_spec` in one bundle) -/
structure FwdReady (S : List Nat) (W : List (Nat × Bool)) (t : TI) (X : Nat) : Prop where
  sS : SortedBy id S
  sW : SortedBy Prod.fst W
  sxs : t.snap.xs = S
  wxs : t.ws.xs = W
  dir : t.dir = .fwd
  ssplit : FSplit id S X t.snap.pos
  wsplit : FSplit Prod.fst W X t.ws.pos

abbrev FwdAt (S : List Nat) (W : List (Nat × Bool)) (t : TI) : Option Nat → Prop :=
  LandedOn (FwdState S W) t

theorem FwdReady.live_cur (h : FwdReady S W t X)
    {k : Nat} (hk : Live S W k) (hx : X ≤ k) :
    (∃ a, t.snap.cur? = some a ∧ a ≤ k) ∨ (∃ e, t.ws.cur? = some e ∧ e.1 ≤ k) := by
  rcases hk with ⟨hk, _⟩ | hk
  · obtain ⟨b, hb, hab⟩ := h.ssplit.cur_le_mem h.sS hk hx
    exact Or.inl ⟨b, hb, hab⟩
  · obtain ⟨b, hb, hab⟩ := h.wsplit.cur_le_mem h.sW hk hx
    exact Or.inr ⟨b, hb, hab⟩

theorem FwdReady.live_ge (h : FwdReady S W t X)
    (hs : ∀ a, t.snap.cur? = some a → m ≤ a) (hw : ∀ e, t.ws.cur? = some e → m ≤ e.1)
    {k : Nat} (hk : Live S W k) (hx : X ≤ k) : m ≤ k := by
  rcases h.live_cur hk hx with ⟨a, ha, hak⟩ | ⟨e, he, hek⟩
  · exact Nat.le_trans (hs a ha) hak
  · exact Nat.le_trans (hw e he) hek

theorem FwdReady.stopSnap (h : FwdReady S W t X)
    (ha : t.snap.cur? = some K) (hb : ∀ e, t.ws.cur? = some e → K < e.1) :
    FwdState S W { t with cur := .snap, eq := false } K ∧ LeastGE S W X (some K) := by
  have hXK : X ≤ K := h.ssplit.frontier_le ha
  have hs : ∀ a, t.snap.cur? = some a → K ≤ a := forall_some_of_some ha (Nat.le_refl K)
  have hw : ∀ e, t.ws.cur? = some e → K ≤ e.1 := fun e he => Nat.le_of_lt (hb e he)
  refine ⟨?_, Or.inl ⟨h.ssplit.cur_mem ha, ?_⟩, hXK, fun k hk hx => h.live_ge hs hw hk hx⟩
  · exact {
      sxs := h.sxs, wxs := h.wxs, dir := h.dir
      ssplit := h.ssplit.raise hXK hs
      wsplit := h.wsplit.raise hXK hw
      key := ha
      curSnap := fun _ => ⟨ha, rfl⟩
      curWs := nofun
      wsAhead := fun _ => hb
      curSome := nofun }
  · intro e he hek
    subst hek
    obtain ⟨b, hb', hab⟩ := h.wsplit.cur_le_mem h.sW he hXK
    exact Nat.not_lt.mpr hab (hb b hb')

theorem FwdReady.stopWs (h : FwdReady S W t X)
    (hb : t.ws.cur? = some (K, false)) (ha : ∀ a, t.snap.cur? = some a → K ≤ a)
    (e : Bool) (he : e = true ↔ t.snap.cur? = some K) :
    FwdState S W { t with cur := .ws, eq := e } K ∧ LeastGE S W X (some K) := by
  have hXK : X ≤ K := h.wsplit.frontier_le hb
  have hw : ∀ e, t.ws.cur? = some e → K ≤ e.1 := forall_some_of_some hb (Nat.le_refl K)
  refine ⟨?_, Or.inr (h.wsplit.cur_mem hb), hXK, fun k hk hx => h.live_ge ha hw hk hx⟩
  exact {
    sxs := h.sxs, wxs := h.wxs, dir := h.dir
    ssplit := h.ssplit.raise hXK ha
    wsplit := h.wsplit.raise hXK hw
    key := by simp [TI.key, hb]
    curSnap := nofun
    curWs := fun _ => ⟨⟨false, hb⟩, he⟩
    wsAhead := nofun
    curSome := nofun }

theorem posMin_ready {fuel : Nat} (h : FwdReady S W t X) (hf : wsRemaining t.ws < fuel) :
    ∃ o, FwdAt S W (TI.posMin fuel t) o ∧ LeastGE S W X o := by
  induction fuel generalizing t X with
  | zero => exact absurd hf (Nat.not_lt_zero _)
  | succ f ih =>
    -- a tombstone at `m` is passed (`t'`: one or both sources moved on): the loop goes on from `m + 1`
    have skip : ∀ m t', t.ws.cur? = some (m, true) → (∀ a, t.snap.cur? = some a → m ≤ a) →
        t'.ws = t.ws.next → FwdReady S W t' (m + 1) →
        ∃ o, FwdAt S W (TI.posMin f t') o ∧ LeastGE S W X o := by
      intro m t' hb ha hw' h'
      have hf' : wsRemaining t'.ws < f := hw' ▸ Nat.lt_of_lt_of_le (wsRemaining_next hb) (Nat.le_of_lt_succ hf)
      obtain ⟨o, ho, hL⟩ := ih h' hf'
      refine ⟨o, ho, LeastGE_shift hL (Nat.le_succ_of_le (h.wsplit.frontier_le hb)) fun k hk hx => ?_⟩
      exact Nat.lt_of_le_of_ne (h.live_ge ha (forall_some_of_some hb (Nat.le_refl m)) hk hx)
        fun hmk => not_live_tomb h.sW (h.wsplit.cur_mem hb) (hmk ▸ hk)
    have skipWs : ∀ m, t.ws.cur? = some (m, true) → (∀ a, t.snap.cur? = some a → m < a) →
        ∃ o, FwdAt S W (TI.posMin f { t with ws := t.ws.next }) o ∧ LeastGE S W X o := fun m hb ha =>
      skip m _ hb (fun a h' => Nat.le_of_lt (ha a h')) rfl
        ⟨h.sS, h.sW, h.sxs, (Cur.next_xs _).trans h.wxs, h.dir,
          h.ssplit.raise (Nat.le_succ_of_le (h.wsplit.frontier_le hb)) ha, h.wsplit.next h.sW hb⟩
    -- the case split is made on a copy of the result: splitting inside the goal is slow to check
    generalize hr : TI.posMin (f + 1) t = r
    rw [posMin_succ] at hr
    split at hr
    next hs hw =>
      subst hr
      refine ⟨none, rfl, fun k hk => Nat.lt_of_not_le fun hx => ?_⟩
      rcases h.live_cur hk hx with ⟨a, ha, _⟩ | ⟨e, he, _⟩
      · exact nomatch hs.symm.trans ha
      · exact nomatch hw.symm.trans he
    next a hs hw => subst hr; exact ⟨some a, h.stopSnap hs (forall_some_of_none hw)⟩
    next b tb hs hw =>
      subst hr
      cases tb
      · exact ⟨some b, h.stopWs hw (forall_some_of_none hs) false (by simp [hs])⟩
      · exact skipWs b hw (forall_some_of_none hs)
    next a b tb hs hw =>
      rcases Nat.lt_trichotomy a b with hab | rfl | hba
      · rw [if_pos hab] at hr; subst hr
        exact ⟨some a, h.stopSnap hs (forall_some_of_some hw hab)⟩
      · rw [if_neg (Nat.lt_irrefl a), if_neg (Nat.lt_irrefl a)] at hr; subst hr
        cases tb
        · exact ⟨some a, h.stopWs hw (forall_some_of_some hs (Nat.le_refl _)) true (by simp [hs])⟩
        · exact skip a _ hw (forall_some_of_some hs (Nat.le_refl _)) rfl
            ⟨h.sS, h.sW, (Cur.next_xs _).trans h.sxs, (Cur.next_xs _).trans h.wxs, h.dir,
              h.ssplit.next h.sS hs, h.wsplit.next h.sW hw⟩
      · rw [if_neg (Nat.lt_asymm hba), if_pos hba] at hr; subst hr
        cases tb
        · exact ⟨some b, h.stopWs hw (forall_some_of_some hs (Nat.le_of_lt hba)) false
            ⟨nofun, fun h' => absurd (Option.some.inj (hs.symm.trans h')) (Nat.ne_of_gt hba)⟩⟩
        · exact skipWs b hw (forall_some_of_some hs hba)

theorem posMin_spec (S : List Nat) (W : List (Nat × Bool)) (hS : SortedBy id S) (hW : SortedBy Prod.fst W)
    (fuel : Nat) : ∀ (t : TI) (X : Nat),
    t.snap.xs = S → t.ws.xs = W → t.dir = .fwd →
    FSplit id S X t.snap.pos → FSplit Prod.fst W X t.ws.pos →
    wsRemaining t.ws < fuel →
    (∃ K, FwdState S W (TI.posMin fuel t) K ∧ LeastGE S W X (some K)) ∨
    ((TI.posMin fuel t).cur = .none ∧ LeastGE S W X none) :=
  fun _ _ h1 h2 h3 h4 h5 h6 => LandedOn.some_or_none (posMin_ready ⟨hS, hW, h1, h2, h3, h4, h5⟩ h6)

theorem posMin_fuel (h : FwdReady S W t X) :
    ∃ o, FwdAt S W (TI.posMin (W.length + 1) t) o ∧ LeastGE S W X o :=
  posMin_ready h (Nat.lt_succ_of_le (wsRemaining_le h.wsplit))

theorem seek_spec (hS : SortedBy id S) (hW : SortedBy Prod.fst W) (hts : t.snap.xs = S) (htw : t.ws.xs = W)
    (k : Nat) : ∃ o, FwdAt S W (t.seek k) o ∧ LeastGE S W k o := by
  rw [TI.seek, TI.fuel, htw]
  exact posMin_fuel ⟨hS, hW, hts, htw, rfl, hts ▸ FSplit_seek id k t.snap, htw ▸ FSplit_seek Prod.fst k t.ws⟩

theorem seekFirst_spec (hS : SortedBy id S) (hW : SortedBy Prod.fst W) (hts : t.snap.xs = S) (htw : t.ws.xs = W) :
    ∃ o, FwdAt S W t.seekFirst o ∧ LeastGE S W 0 o := by
  rw [TI.seekFirst, TI.fuel, htw]
  exact posMin_fuel ⟨hS, hW, hts, htw, rfl, FSplit_of_first hts fun _ _ => Nat.zero_le _,
    FSplit_of_first htw fun _ _ => Nat.zero_le _⟩

/-- what `stepFwd` needs: the source(s) about to be advanced sit on `K`, the other is already past it -/
structure MidFwd (S : List Nat) (W : List (Nat × Bool)) (t : TI) (K : Nat) : Prop where
  sxs : t.snap.xs = S
  wxs : t.ws.xs = W
  dir : t.dir = .fwd
  curSome : t.cur ≠ .none
  curSnap : t.cur = .snap → t.eq = false ∧ At id S K t.snap.pos ∧ FSplit Prod.fst W (K + 1) t.ws.pos
  curWs : t.cur = .ws → At Prod.fst W K t.ws.pos ∧
    (t.eq = true → At id S K t.snap.pos) ∧ (t.eq = false → FSplit id S (K + 1) t.snap.pos)

theorem FwdState.mid (h : FwdState S W t K) : MidFwd S W t K := by
  refine ⟨h.sxs, h.wxs, h.dir, h.curSome, fun hc => ?_, fun hc => ?_⟩
  · obtain ⟨h1, h2⟩ := h.curSnap hc
    exact ⟨h2, h.ssplit.at h1, h.wsplit.raise (Nat.le_succ K) (h.wsAhead hc)⟩
  · obtain ⟨⟨v, h1⟩, h2⟩ := h.curWs hc
    refine ⟨h.wsplit.at h1, fun he => h.ssplit.at (h2.mp he),
      fun he => h.ssplit.raise (Nat.le_succ K) fun a ha => ?_⟩
    refine Nat.lt_of_le_of_ne (h.ssplit.frontier_le ha) fun hKa => ?_
    subst hKa
    exact Bool.noConfusion ((h2.mpr ha).symm.trans he)

theorem stepFwd_spec (hS : SortedBy id S) (hW : SortedBy Prod.fst W) (h : MidFwd S W t K) :
    ∃ o, FwdAt S W t.stepFwd o ∧ LeastGE S W (K + 1) o := by
  -- `t` is taken apart, its write-set cursor down to the list, which `h.wxs` turns into `W`: then
  -- `stepFwd`, with `t.fuel`, reduces to the call `posMin (W.length + 1) _` that `posMin_fuel` is about
  obtain ⟨snap, ⟨wxs, wpos⟩, eq, cur, dir⟩ := t
  obtain ⟨hsx, rfl, hdir, hcn, hcs, hcw⟩ := h
  cases cur with
  | none => exact absurd rfl hcn
  | snap =>
    obtain ⟨rfl, hat, hwf⟩ := hcs rfl
    exact posMin_fuel ⟨hS, hW, (Cur.next_xs _).trans hsx, rfl, hdir, hat.next hS, hwf⟩
  | ws =>
    obtain ⟨hat, he1, he2⟩ := hcw rfl
    cases eq with
    | true =>
      exact posMin_fuel ⟨hS, hW, (Cur.next_xs _).trans hsx, Cur.next_xs _, hdir, (he1 rfl).next hS, hat.next hW⟩
    | false => exact posMin_fuel ⟨hS, hW, hsx, Cur.next_xs _, hdir, he2 rfl, hat.next hW⟩

theorem turnFwd_of_snap (hc : t.cur = .snap) (hv : t.snap.valid = true) :
    t.turnFwd = TI.eqCheck { t with dir := .fwd, eq := false, ws := t.ws.turnF } := by
  simp [turnFwd_eq, hc, hv, Cur.turnF]

theorem turnFwd_of_ws (hc : t.cur = .ws) (hv : t.ws.valid = true) :
    t.turnFwd = TI.eqCheck { t with dir := .fwd, eq := false, snap := t.snap.turnF } := by
  simp [turnFwd_eq, hc, hv, Cur.turnF]

theorem turnFwd_spec (hS : SortedBy id S) (hW : SortedBy Prod.fst W) (h : BwdState S W t K) :
    MidFwd S W t.turnFwd K := by
  cases hc : t.cur with
  | none => exact absurd hc h.curSome
  | snap =>
    obtain ⟨h1, h2⟩ := h.curSnap hc
    have hwf : FSplit Prod.fst W (K + 1) t.ws.turnF.pos := h.wsplit.turnF hW h.wxs
    rw [turnFwd_of_snap hc (Cur.valid_of_cur? h1), eqCheck_noop]
    · exact ⟨h.sxs, (Cur.turnF_xs _).trans h.wxs, rfl, fun hn => by simp [hc] at hn,
        fun _ => ⟨rfl, h.ssplit.at h1, hwf⟩, fun hw => by simp [hc] at hw⟩
    · intro a b ha hb
      rw [h1] at ha; cases ha
      exact Nat.ne_of_lt (hwf.frontier_le hb)
  | ws =>
    obtain ⟨⟨v, h1⟩, _⟩ := h.curWs hc
    have hsf : FSplit id S (K + 1) t.snap.turnF.pos := h.ssplit.turnF hS h.sxs
    rw [turnFwd_of_ws hc (Cur.valid_of_cur? h1), eqCheck_noop]
    · exact ⟨(Cur.turnF_xs _).trans h.sxs, h.wxs, rfl, fun hn => by simp [hc] at hn,
        fun hs => by simp [hc] at hs, fun _ => ⟨h.wsplit.at h1, nofun, fun _ => hsf⟩⟩
    · intro a b ha hb
      rw [h1] at hb; cases hb
      exact (Nat.ne_of_lt (hsf.frontier_le ha)).symm

theorem next_spec (hS : SortedBy id S) (hW : SortedBy Prod.fst W) (h : FwdState S W t K ∨ BwdState S W t K) :
    ∃ o, FwdAt S W t.next o ∧ LeastGE S W (K + 1) o := by
  rcases h with h | h
  · have : t.next = t.stepFwd := by simp [TI.next, h.dir]
    exact this ▸ stepFwd_spec hS hW h.mid
  · have : t.next = t.turnFwd.stepFwd := by simp [TI.next, h.dir]
    exact this ▸ stepFwd_spec hS hW (turnFwd_spec hS hW h)
