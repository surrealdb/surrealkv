import Skv.Model.Bloom
/-! the filter of a key list is `setBits` over all probes of all keys, and `setBits` only sets bits -/

theorem setBits_cons (bits : List Bool) (p : Nat) (ps : List Nat) :
    setBits bits (p :: ps) = setBits (bits.set (p % bits.length) true) ps := rfl

theorem setBits_length (bits : List Bool) (ps : List Nat) : (setBits bits ps).length = bits.length := by
  induction ps generalizing bits with
  | nil => rfl
  | cons p ps ih => rw [setBits_cons, ih, List.length_set]

theorem setBits_get (bits : List Bool) (ps : List Nat) (i : Nat) (hi : i < bits.length)
    (h : bits[i]?.getD false = true ∨ ∃ p ∈ ps, p % bits.length = i) :
    (setBits bits ps)[i]?.getD false = true := by
  induction ps generalizing bits with
  | nil => simpa [setBits] using h
  | cons q qs ih =>
    rw [setBits_cons]
    refine ih _ (by rwa [List.length_set]) ?_
    rw [List.length_set]
    by_cases hq : q % bits.length = i
    · exact .inl (by rw [hq, List.getElem?_set_self hi]; rfl)
    · rw [List.getElem?_set_ne hq]
      rcases h with h | ⟨p, hp, rfl⟩
      · exact .inl h
      · rcases List.mem_cons.mp hp with rfl | hp
        · exact absurd rfl hq
        · exact .inr ⟨p, hp, rfl⟩

theorem buildFilter_eq {α : Type} (nbits : Nat) (probes : α → List Nat) (keys : List α) :
    buildFilter nbits probes keys = setBits (List.replicate nbits false) (keys.flatMap probes) :=
  List.foldl_flatMap.symm

theorem bloom_no_false_negative {α : Type} (nbits : Nat) (hn : 0 < nbits) (probes : α → List Nat)
    (keys : List α) (k : α) (hk : k ∈ keys) : mayContain (buildFilter nbits probes keys) probes k = true := by
  rw [mayContain, List.all_eq_true, buildFilter_eq, setBits_length, List.length_replicate]
  intro p hp
  have := setBits_get (List.replicate nbits false) (keys.flatMap probes) (p % nbits)
    (by simpa using Nat.mod_lt p hn) (.inr ⟨p, List.mem_flatMap.mpr ⟨k, hk, hp⟩, by simp⟩)
  simpa using this
