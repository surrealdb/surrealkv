import Skv.Lemmas.Txn
import Skv.Model.TxnProg
/-!
The batch `commit` builds (C08: "a commit applies the surviving writes in the order they were
issued"): sorted by issue number, a permutation of the surviving entries, and per key it ends with
the entry `get` would return; for the last, `WsWf`, the write set's second invariant (issue numbers).
-/
open Txn

def runState {σ : Type} (step : σ → TOp → σ × TOut) : σ → List TOp → σ
  | s, [] => s
  | s, op :: ops => runState step (step s op).1 ops

theorem runState_append {σ : Type} (step : σ → TOp → σ × TOut) (s : σ) (a b : List TOp) :
    runState step s (a ++ b) = runState step (runState step s a) b := by
  induction a generalizing s with
  | nil => rfl
  | cons op a ih => exact ih _

theorem insBySeq_perm (e : Entry) (xs : List Entry) : (insBySeq e xs).Perm (e :: xs) := by
  induction xs with
  | nil => exact List.Perm.refl _
  | cons x xs ih =>
    unfold insBySeq
    split
    · exact List.Perm.refl _
    · exact (List.Perm.cons x ih).trans (List.Perm.swap e x xs)

theorem foldr_insBySeq_perm (l : List Entry) : (l.foldr insBySeq []).Perm l := by
  induction l with
  | nil => exact List.Perm.refl _
  | cons a l ih => exact (insBySeq_perm a _).trans (List.Perm.cons a ih)

theorem insBySeq_sorted (e : Entry) (xs : List Entry)
    (h : xs.Pairwise (fun a b => a.seqno ≤ b.seqno)) :
    (insBySeq e xs).Pairwise (fun a b => a.seqno ≤ b.seqno) := by
  induction xs with
  | nil => simp [insBySeq]
  | cons x xs ih =>
    unfold insBySeq
    have hx := List.pairwise_cons.mp h
    split
    · rename_i hlt
      refine List.pairwise_cons.mpr ⟨fun b hb => Nat.le_trans (Nat.le_of_lt hlt) ?_, h⟩
      rcases List.mem_cons.mp hb with rfl | hb
      · exact Nat.le_refl _
      · exact hx.1 b hb
    · rename_i hge
      refine List.pairwise_cons.mpr ⟨fun b hb => ?_, ih hx.2⟩
      rcases List.mem_cons.mp ((insBySeq_perm e xs).subset hb) with rfl | hb
      · exact Nat.le_of_not_lt hge
      · exact hx.1 b hb

theorem foldr_insBySeq_sorted (l : List Entry) :
    (l.foldr insBySeq []).Pairwise (fun a b => a.seqno ≤ b.seqno) := by
  induction l with
  | nil => simp
  | cons a l ih => exact insBySeq_sorted a _ ih

theorem insBySeq_lt_all (e : Entry) (ys : List Entry) (h : ∀ y ∈ ys, e.seqno < y.seqno) :
    insBySeq e ys = e :: ys := by
  cases ys with
  | nil => rfl
  | cons y ys => rw [insBySeq, if_pos (h y List.mem_cons_self)]

structure WsWf (t : Txn) : Prop where
  nodup : (t.ws.map (·.1)).Nodup
  entry : ∀ k, ∀ e ∈ entriesOf t.ws k, e.key = k ∧ e.seqno ≤ t.writeSeqno
  inc : ∀ k, (entriesOf t.ws k).Pairwise (fun a b => a.seqno < b.seqno)

theorem wf_clear {m : Mode} {c : Bool} {sp n : Nat} : WsWf ⟨m, c, sp, n, []⟩ :=
  ⟨List.nodup_nil, fun _ _ h => (nomatch h), fun _ => .nil⟩

theorem wf_mono {t t' : Txn} (h : WsWf t) (hws : t'.ws = t.ws) (hn : t.writeSeqno ≤ t'.writeSeqno) :
    WsWf t' := by
  refine ⟨hws ▸ h.nodup, fun k e he => ?_, fun k => hws ▸ h.inc k⟩
  rw [hws] at he
  exact ⟨(h.entry k e he).1, Nat.le_trans (h.entry k e he).2 hn⟩

theorem wf_upsert {t : Txn} (h : WsWf t) (e : Entry) (he : e.seqno = t.writeSeqno + 1) :
    WsWf { t with writeSeqno := t.writeSeqno + 1, ws := upsert t.ws e.key (pushRule e) } := by
  have hold k x (hx : x ∈ entriesOf t.ws k) : x.key = k ∧ x.seqno ≤ t.writeSeqno + 1 :=
    ⟨(h.entry k x hx).1, Nat.le_succ_of_le (h.entry k x hx).2⟩
  refine ⟨upsert_keys_nodup h.nodup, fun k x hx => ?_, fun k => ?_⟩
  · rw [entriesOf_upsert] at hx
    split at hx
    · subst_vars
      rcases pushRule_mem hx with rfl | hx
      · exact ⟨rfl, Nat.le_of_eq he⟩
      · exact hold _ x hx
    · exact hold k x hx
  · rw [entriesOf_upsert]
    split
    · exact pushRule_pairwise (h.inc _) fun x hx => he ▸ Nat.lt_succ_of_le (h.entry _ x hx).2
    · exact h.inc k

theorem wf_dropLevel {t : Txn} (h : WsWf t) {n m : Nat} :
    WsWf { t with ws := dropLevel n t.ws, savepoints := m } := by
  refine ⟨dropLevel_keys_sublist.nodup h.nodup, fun k e he => ?_, fun k => ?_⟩
  · rw [entriesOf_dropLevel h.nodup] at he
    exact h.entry k e (List.mem_filter.mp he).1
  · rw [entriesOf_dropLevel h.nodup]
    exact (h.inc k).sublist List.filter_sublist

theorem wf_step {t : Txn} (h : WsWf t) (snap : Key → Option Val) (op : TOp) : WsWf (t.step snap op).1 := by
  cases op with
  | write k v kind ts =>
    have h' : WsWf { t with writeSeqno := t.writeSeqno + 1 } := wf_mono h rfl (Nat.le_succ _)
    show WsWf (t.write k v kind ts).1
    exact ite_fst (fun _ => h') fun _ => ite_fst (fun _ => h') fun _ => ite_fst (fun _ => h') fun _ =>
      wf_upsert h ⟨k, v, kind, t.savepoints, t.writeSeqno + 1, ts⟩ rfl
  | get k => exact h
  | setSp =>
    show WsWf t.setSavepoint.1
    exact ite_fst (fun _ => h) fun _ => ite_fst (fun _ => h) fun _ => wf_mono h rfl (Nat.le_refl _)
  | rbSp =>
    show WsWf t.rollbackToSavepoint.1
    exact ite_fst (fun _ => h) fun _ => ite_fst (fun _ => h) fun _ => ite_fst (fun _ => h) fun _ => wf_dropLevel h
  | rollback => exact wf_clear
  | commit okp =>
    show WsWf (t.commit okp).1
    exact ite_fst (fun _ => h) fun _ => ite_fst (fun _ => h) fun _ =>
      ite_fst (fun _ => wf_mono h rfl (Nat.le_refl _)) fun _ => ite_fst (fun _ => wf_clear) fun _ => wf_clear

theorem wf_run {t : Txn} (h : WsWf t) (snap : Key → Option Val) (ops : List TOp) :
    WsWf (runState (Txn.step snap) t ops) := by
  induction ops generalizing t with
  | nil => exact h
  | cons op ops ih => exact ih (wf_step h snap op)

theorem flat_filter_key {ws : List (Key × List Entry)} {k : Key}
    (hkeyed : ∀ k, ∀ e ∈ entriesOf ws k, e.key = k) (hnd : (ws.map (·.1)).Nodup) :
    (ws.flatMap (·.2)).filter (fun e => e.key == k) = entriesOf ws k := by
  induction ws with
  | nil => rfl
  | cons p ws ih =>
    rw [List.map_cons, List.nodup_cons] at hnd
    have hp : ∀ e ∈ p.2, e.key = p.1 := fun e he => hkeyed p.1 e (by rwa [entriesOf_cons, if_pos rfl])
    have hws : ∀ k, ∀ e ∈ entriesOf ws k, e.key = k := fun k e he => hkeyed k e <| by
      rw [entriesOf_cons]
      split
      · subst_vars; rw [entriesOf_of_not_mem hnd.1] at he; cases he
      · exact he
    rw [List.flatMap_cons, List.filter_append, ih hws hnd.2, entriesOf_cons]
    split
    · subst_vars
      rw [entriesOf_of_not_mem hnd.1, List.append_nil, List.filter_eq_self]
      intro e he
      simp [hp e he]
    · rename_i hk
      rw [List.filter_eq_nil_iff.mpr (fun e he => by simp [hp e he, Ne.symm hk]), List.nil_append]

theorem batch_filter_key {t : Txn} (h : WsWf t) (k : Key) :
    t.batch.filter (fun e => e.key == k) = entriesOf t.ws k := by
  have hp : (t.batch.filter (fun e => e.key == k)).Perm (entriesOf t.ws k) := by
    rw [← flat_filter_key (fun k e he => (h.entry k e he).1) h.nodup]
    exact (foldr_insBySeq_perm _).filter _
  -- both sides are sorted by issue number, and within the key's list issue numbers are distinct
  refine hp.eq_of_pairwise (le := fun a b => a.seqno ≤ b.seqno) (fun a b ha hb hab hba => ?_)
    ((foldr_insBySeq_sorted _).filter _) ((h.inc k).imp Nat.le_of_lt)
  rcases (h.inc k).eq_or_rel (hp.subset ha) hb with rfl | hlt | hlt
  · rfl
  · exact absurd hba (Nat.not_le_of_lt hlt)
  · exact absurd hab (Nat.not_le_of_lt hlt)
