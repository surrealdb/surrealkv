import Skv.Model.Pipeline
import Skv.Lemmas.ListAux
/-!
`Step s i t s'` lists the outcomes of `stepThread` for thread `i` (whose record is `t`), each with its guard
and with the result written through the helpers of the model, `enq` and record updates; facts about `stepThread` are proved by cases
on it.  `Step.thread` is what the request invariant, the termination measure and the description of
stuck threads rest on.
-/
open PState

section proj
variable (s : PState) (i : Nat) (t : Thread) (f : Nat) (r : CRes)

@[simp] theorem setThread_visible : (s.setThread i t).visible = s.visible := rfl
@[simp] theorem setThread_queue : (s.setThread i t).queue = s.queue := rfl
@[simp] theorem setThread_mem : (s.setThread i t).mem = s.mem := rfl
@[simp] theorem setThread_batches : (s.setThread i t).batches = s.batches := rfl
@[simp] theorem setThread_completed : (s.setThread i t).completed = s.completed := rfl
@[simp] theorem setThread_logSeq : (s.setThread i t).logSeq = s.logSeq := rfl
@[simp] theorem setThread_permits : (s.setThread i t).permits = s.permits := rfl
@[simp] theorem setThread_cap : (s.setThread i t).cap = s.cap := rfl
@[simp] theorem setThread_panicked : (s.setThread i t).panicked = s.panicked := rfl
@[simp] theorem setThread_threads : (s.setThread i t).threads = s.threads.set i t := rfl
@[simp] theorem setThread_owners : (s.setThread i t).owners = s.owners := rfl
@[simp] theorem setThread_dropped : (s.setThread i t).dropped = s.dropped := rfl
@[simp] theorem setThread_returned : (s.setThread i t).returned = s.returned := rfl

@[simp] theorem release_visible (o : Own) : (s.release o).visible = s.visible := by unfold release; split <;> rfl
@[simp] theorem release_queue (o : Own) : (s.release o).queue = s.queue := by unfold release; split <;> rfl
@[simp] theorem release_mem (o : Own) : (s.release o).mem = s.mem := by unfold release; split <;> rfl
@[simp] theorem release_batches (o : Own) : (s.release o).batches = s.batches := by unfold release; split <;> rfl
@[simp] theorem release_completed (o : Own) : (s.release o).completed = s.completed := by unfold release; split <;> rfl
@[simp] theorem release_logSeq (o : Own) : (s.release o).logSeq = s.logSeq := by unfold release; split <;> rfl
@[simp] theorem release_threads (o : Own) : (s.release o).threads = s.threads := by unfold release; split <;> rfl
@[simp] theorem release_cap (o : Own) : (s.release o).cap = s.cap := by unfold release; split <;> rfl
@[simp] theorem release_panicked (o : Own) : (s.release o).panicked = s.panicked := by unfold release; split <;> rfl
@[simp] theorem release_returned (o : Own) : (s.release o).returned = s.returned := by unfold release; split <;> rfl
@[simp] theorem release_dropped (o : Own) : (s.release o).dropped = s.dropped := by unfold release; split <;> rfl

@[simp] theorem dropBatch_visible : (s.dropBatch f).visible = s.visible := by unfold dropBatch; split <;> simp
@[simp] theorem dropBatch_queue : (s.dropBatch f).queue = s.queue := by unfold dropBatch; split <;> simp
@[simp] theorem dropBatch_mem : (s.dropBatch f).mem = s.mem := by unfold dropBatch; split <;> simp
@[simp] theorem dropBatch_batches : (s.dropBatch f).batches = s.batches := by unfold dropBatch; split <;> simp
@[simp] theorem dropBatch_completed : (s.dropBatch f).completed = s.completed := by unfold dropBatch; split <;> simp
@[simp] theorem dropBatch_logSeq : (s.dropBatch f).logSeq = s.logSeq := by unfold dropBatch; split <;> simp
@[simp] theorem dropBatch_threads : (s.dropBatch f).threads = s.threads := by unfold dropBatch; split <;> simp
@[simp] theorem dropBatch_cap : (s.dropBatch f).cap = s.cap := by unfold dropBatch; split <;> simp
@[simp] theorem dropBatch_panicked : (s.dropBatch f).panicked = s.panicked := by unfold dropBatch; split <;> simp

@[simp] theorem complete_visible : (s.complete f r).visible = s.visible := by unfold complete; split <;> rfl
@[simp] theorem complete_queue : (s.complete f r).queue = s.queue := by unfold complete; split <;> rfl
@[simp] theorem complete_mem : (s.complete f r).mem = s.mem := by unfold complete; split <;> rfl
@[simp] theorem complete_batches : (s.complete f r).batches = s.batches := by unfold complete; split <;> rfl
@[simp] theorem complete_logSeq : (s.complete f r).logSeq = s.logSeq := by unfold complete; split <;> rfl
@[simp] theorem complete_threads : (s.complete f r).threads = s.threads := by unfold complete; split <;> rfl
@[simp] theorem complete_cap : (s.complete f r).cap = s.cap := by unfold complete; split <;> rfl
@[simp] theorem complete_permits : (s.complete f r).permits = s.permits := by unfold complete; split <;> rfl
@[simp] theorem complete_owners : (s.complete f r).owners = s.owners := by unfold complete; split <;> rfl
@[simp] theorem complete_dropped : (s.complete f r).dropped = s.dropped := by unfold complete; split <;> rfl
@[simp] theorem complete_returned : (s.complete f r).returned = s.returned := by unfold complete; split <;> rfl
@[simp] theorem complete_panicked : (s.complete f r).panicked = s.panicked := by unfold complete; split <;> rfl

@[simp] theorem markApplied_visible : (s.markApplied f).visible = s.visible := rfl
@[simp] theorem markApplied_mem : (s.markApplied f).mem = s.mem := rfl
@[simp] theorem markApplied_batches : (s.markApplied f).batches = s.batches := rfl
@[simp] theorem markApplied_completed : (s.markApplied f).completed = s.completed := rfl
@[simp] theorem markApplied_logSeq : (s.markApplied f).logSeq = s.logSeq := rfl
@[simp] theorem markApplied_threads : (s.markApplied f).threads = s.threads := rfl
@[simp] theorem markApplied_queue : (s.markApplied f).queue =
    s.queue.map (fun b => if b.first == f then { b with applied := true } else b) := rfl
@[simp] theorem markApplied_permits : (s.markApplied f).permits = s.permits := rfl
@[simp] theorem markApplied_owners : (s.markApplied f).owners = s.owners := rfl
@[simp] theorem markApplied_dropped : (s.markApplied f).dropped = s.dropped := rfl
@[simp] theorem markApplied_panicked : (s.markApplied f).panicked = s.panicked := rfl
@[simp] theorem markApplied_cap : (s.markApplied f).cap = s.cap := rfl

@[simp] theorem markFailed_visible : (s.markFailed f).visible = s.visible := rfl
@[simp] theorem markFailed_mem : (s.markFailed f).mem = s.mem := rfl
@[simp] theorem markFailed_queue : (s.markFailed f).queue = s.queue := rfl
@[simp] theorem markFailed_completed : (s.markFailed f).completed = s.completed := rfl
@[simp] theorem markFailed_logSeq : (s.markFailed f).logSeq = s.logSeq := rfl
@[simp] theorem markFailed_threads : (s.markFailed f).threads = s.threads := rfl
@[simp] theorem markFailed_batches : (s.markFailed f).batches =
    s.batches.map (fun b => if b.1 == f then (b.1, b.2.1, true) else b) := rfl
@[simp] theorem markFailed_permits : (s.markFailed f).permits = s.permits := rfl
@[simp] theorem markFailed_owners : (s.markFailed f).owners = s.owners := rfl
@[simp] theorem markFailed_dropped : (s.markFailed f).dropped = s.dropped := rfl
@[simp] theorem markFailed_panicked : (s.markFailed f).panicked = s.panicked := rfl
@[simp] theorem markFailed_cap : (s.markFailed f).cap = s.cap := rfl

theorem finish_frame (fo : Option Nat) :
    (s.finish i t r fo).visible = s.visible ∧ (s.finish i t r fo).queue = s.queue ∧ (s.finish i t r fo).mem = s.mem ∧
    (s.finish i t r fo).batches = s.batches ∧ (s.finish i t r fo).completed = s.completed ∧
    (s.finish i t r fo).logSeq = s.logSeq ∧ (s.finish i t r fo).cap = s.cap ∧
    (s.finish i t r fo).panicked = s.panicked ∧
    (s.finish i t r fo).threads = s.threads.set i { t with pc := .ready, results := r :: t.results } := by
  unfold finish; dsimp only
  split
  · simp
  · split
    · simp
    · exact ⟨rfl, rfl, rfl, rfl, rfl, rfl, rfl, rfl, rfl⟩

variable (fo : Option Nat)
@[simp] theorem finish_visible : (s.finish i t r fo).visible = s.visible := (finish_frame s i t r fo).1
@[simp] theorem finish_queue : (s.finish i t r fo).queue = s.queue := (finish_frame s i t r fo).2.1
@[simp] theorem finish_mem : (s.finish i t r fo).mem = s.mem := (finish_frame s i t r fo).2.2.1
@[simp] theorem finish_batches : (s.finish i t r fo).batches = s.batches := (finish_frame s i t r fo).2.2.2.1
@[simp] theorem finish_completed : (s.finish i t r fo).completed = s.completed :=
  (finish_frame s i t r fo).2.2.2.2.1
@[simp] theorem finish_logSeq : (s.finish i t r fo).logSeq = s.logSeq := (finish_frame s i t r fo).2.2.2.2.2.1
@[simp] theorem finish_cap : (s.finish i t r fo).cap = s.cap := (finish_frame s i t r fo).2.2.2.2.2.2.1
@[simp] theorem finish_panicked : (s.finish i t r fo).panicked = s.panicked :=
  (finish_frame s i t r fo).2.2.2.2.2.2.2.1
@[simp] theorem finish_threads :
    (s.finish i t r fo).threads = s.threads.set i { t with pc := .ready, results := r :: t.results } :=
  (finish_frame s i t r fo).2.2.2.2.2.2.2.2

end proj

theorem mem_complete {s : PState} {f : Nat} {r : CRes} {x : Nat × CRes} (hx : x ∈ (s.complete f r).completed) :
    x ∈ s.completed ∨ x = (f, r) := by
  unfold complete at hx
  split at hx
  · exact Or.inl hx
  · exact (List.mem_cons.mp hx).symm

theorem completedRes_eq_some {s : PState} {f : Nat} {r : CRes} (h : s.completedRes f = some r) :
    (f, r) ∈ s.completed :=
  List.mem_of_aget_eq_some h


inductive PubTop (s : PState) (i : Nat) (t : Thread) (f : Nat) (k : FK) : PState → Prop
  | dequeue (b : QB) (rest : List QB) (hq : s.queue = b :: rest) (ha : b.applied = true) :
      PubTop s i t f k { (s.setThread i { t with pc := .pubDequeued b f k }) with queue := rest }
  | leaveWal (hk : k = .wal) (hh : ∀ b rest, s.queue = b :: rest → b.applied = false) :
      PubTop s i t f k (s.finish i t .errWal (some f))
  | leave (hk : k ≠ .wal) (hh : ∀ b rest, s.queue = b :: rest → b.applied = false) :
      PubTop s i t f k (s.setThread i { t with pc := .afterPublish f k })

theorem publishTop_spec (s : PState) (i : Nat) (t : Thread) (f : Nat) (k : FK) :
    PubTop s i t f k (s.publishTop i t f k) := by
  have leave : (∀ b rest, s.queue = b :: rest → b.applied = false) →
      PubTop s i t f k (if k == .wal then s.finish i t .errWal (some f)
        else s.setThread i { t with pc := .afterPublish f k }) := by
    intro hh
    by_cases hk : k = .wal
    · rw [if_pos (by simp [hk])]; exact .leaveWal hk hh
    · rw [if_neg (by simp [hk])]; exact .leave hk hh
  unfold publishTop
  dsimp only
  split
  · rename_i b rest hq
    split
    · exact .dequeue b rest hq ‹_›
    · exact leave (fun b' rest' h => by rw [hq] at h; cases h; exact Bool.eq_false_iff.mpr ‹_›)
  · rename_i hq
    exact leave (fun b rest h => by rw [hq] at h; cases h)

theorem PubTop.frame {s s' : PState} {i f : Nat} {t : Thread} {k : FK} (h : PubTop s i t f k s') :
    s'.visible = s.visible ∧ s'.mem = s.mem ∧ s'.batches = s.batches ∧ s'.completed = s.completed ∧
      s'.logSeq = s.logSeq ∧ s'.cap = s.cap ∧ s'.panicked = s.panicked := by
  cases h <;> simp

theorem publishTop_visible (s : PState) (i : Nat) (t : Thread) (f : Nat) (k : FK) :
    (s.publishTop i t f k).visible = s.visible := (publishTop_spec s i t f k).frame.1

theorem publishTop_mem (s : PState) (i : Nat) (t : Thread) (f : Nat) (k : FK) :
    (s.publishTop i t f k).mem = s.mem := (publishTop_spec s i t f k).frame.2.1

theorem publishTop_batches (s : PState) (i : Nat) (t : Thread) (f : Nat) (k : FK) :
    (s.publishTop i t f k).batches = s.batches := (publishTop_spec s i t f k).frame.2.2.1

theorem publishTop_completed (s : PState) (i : Nat) (t : Thread) (f : Nat) (k : FK) :
    (s.publishTop i t f k).completed = s.completed := (publishTop_spec s i t f k).frame.2.2.2.1

theorem publishTop_logSeq (s : PState) (i : Nat) (t : Thread) (f : Nat) (k : FK) :
    (s.publishTop i t f k).logSeq = s.logSeq := (publishTop_spec s i t f k).frame.2.2.2.2.1

theorem publishTop_cap (s : PState) (i : Nat) (t : Thread) (f : Nat) (k : FK) :
    (s.publishTop i t f k).cap = s.cap := (publishTop_spec s i t f k).frame.2.2.2.2.2.1

theorem publishTop_panicked (s : PState) (i : Nat) (t : Thread) (f : Nat) (k : FK) :
    (s.publishTop i t f k).panicked = s.panicked := (publishTop_spec s i t f k).frame.2.2.2.2.2.2

/-- allocating a sequence range and enqueuing the batch -/
def enq (s : PState) (c : Nat) (o : Oracle) (ow : List Own) : PState :=
  { s with logSeq := s.logSeq + c, oracle := o,
           queue := s.queue ++ [(⟨s.logSeq, c, false⟩ : QB)],
           batches := (s.logSeq, c, false) :: s.batches, owners := ow }

/-- a thread that `stepThread` leaves where it is -/
def Stuck (s : PState) (t : Thread) : Prop :=
  t.pc = .ready ∨ (∃ st, t.pc = .begun st ∧ t.req.keys.isEmpty = false ∧ s.permits = 0) ∨
    ∃ f, t.pc = .waiting f ∧ s.completedRes f = none

inductive Step (s : PState) (i : Nat) (t : Thread) : PState → Prop
  | stay (h : Stuck s t) : Step s i t s
  | retEmpty (st : Nat) (hpc : t.pc = .begun st) (he : t.req.keys.isEmpty = true) :
      Step s i t (s.setThread i { t with pc := .ready, results := .ok :: t.results })
  | acquire (st : Nat) (hpc : t.pc = .begun st) (he : t.req.keys.isEmpty = false) (hp : 0 < s.permits) :
      Step s i t { (s.setThread i { t with pc := .havePermit st }) with
        permits := s.permits - 1, owners := .thr i :: s.owners }
  | refuse (st : Nat) (hpc : t.pc = .havePermit st) (e : CErr) (hc : s.oracle.check t.req.keys st = .error e) :
      Step s i t (s.finish i t (if e = .retry then .retry else .conflict))
  | overflow (st : Nat) (hpc : t.pc = .havePermit st) (hc : s.oracle.check t.req.keys st = .ok ())
      (hov : s.cap ≤ s.queue.length) : Step s i t { s with panicked := true }
  | enqueue (st : Nat) (hpc : t.pc = .havePermit st) (hc : s.oracle.check t.req.keys st = .ok ())
      (hroom : s.queue.length < s.cap) (hw : t.req.failWal = false) :
      Step s i t ((enq s t.req.keys.length (s.oracle.publish s.gc t.req.keys s.logSeq t.req.keys.length 0)
        (.bat s.logSeq :: s.owners.erase (.thr i))).setThread i
          { t with pc := .applying s.logSeq t.req.keys.length 0 })
  | enqueueWal (st : Nat) (hpc : t.pc = .havePermit st) (hc : s.oracle.check t.req.keys st = .ok ())
      (hroom : s.queue.length < s.cap) (hw : t.req.failWal = true) :
      Step s i t (((((enq s t.req.keys.length ((s.oracle.publish s.gc t.req.keys s.logSeq t.req.keys.length 0).rollback
        t.req.keys (s.logSeq + t.req.keys.length - 1)) (.bat s.logSeq :: s.owners.erase (.thr i))).complete s.logSeq
          .errWal).markApplied s.logSeq).markFailed s.logSeq).setThread i { t with pc := .walFailed s.logSeq })
  | applyFail (f c j : Nat) (hpc : t.pc = .applying f c j) (hf : t.req.failApplyAt = some j) :
      Step s i t ((s.markFailed f).setThread i { t with pc := .afterApply f c true })
  | applyNext (f c j : Nat) (hpc : t.pc = .applying f c j) (hf : t.req.failApplyAt ≠ some j) (hj : j + 1 < c) :
      Step s i t (({ s with mem := (f + j) :: s.mem } : PState).setThread i { t with pc := .applying f c (j + 1) })
  | applyLast (f c j : Nat) (hpc : t.pc = .applying f c j) (hf : t.req.failApplyAt ≠ some j) (hj : ¬ j + 1 < c) :
      Step s i t (({ s with mem := (f + j) :: s.mem } : PState).setThread i { t with pc := .afterApply f c false })
  | markOk (f c : Nat) (hpc : t.pc = .afterApply f c false) :
      Step s i t ((s.markApplied f).setThread i { t with pc := .afterMark f .none })
  | markErr (f c : Nat) (hpc : t.pc = .afterApply f c true) :
      Step s i t (((({ s with oracle := s.oracle.rollback t.req.keys (f + c - 1) } : PState).complete f
        .errApply).markApplied f).setThread i { t with pc := .afterMark f .apply })
  | pubTop (f : Nat) (k : FK) (hpc : t.pc = .afterMark f k ∨ t.pc = .walFailed f ∧ k = .wal) :
      Step s i t (s.publishTop i t f k)
  | setVisible (b : QB) (f : Nat) (k : FK) (hpc : t.pc = .pubDequeued b f k) :
      Step s i t { (s.setThread i { t with pc := .pubVisible b f k }) with visible := max s.visible b.last }
  | publish (b : QB) (f : Nat) (k : FK) (hpc : t.pc = .pubVisible b f k) :
      Step s i t (((s.complete b.first .ok).dropBatch b.first).publishTop i t f k)
  | returnErr (f : Nat) (k : FK) (hpc : t.pc = .afterPublish f k) (hk : k ≠ .none) :
      Step s i t (s.finish i t .errApply (some f))
  | returnRes (f : Nat) (r : CRes) (hpc : t.pc = .afterPublish f .none ∨ t.pc = .waiting f)
      (hr : s.completedRes f = some r) : Step s i t (s.finish i t r (some f))
  | wait (f : Nat) (hpc : t.pc = .afterPublish f .none) (hr : s.completedRes f = none) :
      Step s i t (s.setThread i { t with pc := .waiting f })

theorem step_spec {s : PState} {i : Nat} {t : Thread} (hp : s.panicked = false) (ht : s.threads[i]? = some t) :
    Step s i t (s.stepThread i) := by
  unfold stepThread
  rw [if_neg (by simp [hp]), ht]
  dsimp only
  split
  · exact .stay (.inl ‹_›)
  · rename_i st hpc
    split
    · exact .retEmpty st hpc ‹_›
    · split
      · exact .acquire st hpc (Bool.eq_false_iff.mpr ‹¬ t.req.keys.isEmpty = true›) ‹_›
      · exact .stay (.inr (.inl ⟨st, hpc, by simpa using ‹¬ t.req.keys.isEmpty = true›, by omega⟩))
  · rename_i st hpc
    split
    · exact .refuse st hpc .conflict ‹_›
    · exact .refuse st hpc .retry ‹_›
    · split
      · exact .overflow st hpc ‹_› ‹_›
      · split
        · exact .enqueueWal st hpc ‹_› (by omega) ‹_›
        · exact .enqueue st hpc ‹_› (by omega) (Bool.eq_false_iff.mpr ‹_›)
  · rename_i f c j hpc
    split
    · exact .applyFail f c j hpc (beq_iff_eq.mp ‹_›)
    · have hf : t.req.failApplyAt ≠ some j := fun h => ‹¬ _› (beq_iff_eq.mpr h)
      split
      · exact .applyNext f c j hpc hf ‹_›
      · exact .applyLast f c j hpc hf ‹_›
  · rename_i f c failed hpc
    cases failed with
    | true => exact .markErr f c hpc
    | false => exact .markOk f c hpc
  · exact .pubTop _ _ (.inl ‹_›)
  · exact .pubTop _ _ (.inr ⟨‹_›, rfl⟩)
  · exact .setVisible _ _ _ ‹_›
  · exact .publish _ _ _ ‹_›
  · rename_i f k hpc
    split
    · exact .returnErr f k hpc (by simpa using ‹(k != FK.none) = true›)
    · have hk : k = .none := by simpa using ‹¬ (k != FK.none) = true›
      subst hk
      split
      · exact .returnRes f _ (.inl hpc) ‹_›
      · exact .wait f hpc ‹_›
  · rename_i f hpc
    split
    · exact .returnRes f _ (.inr hpc) ‹_›
    · exact .stay (.inr (.inr ⟨f, hpc, ‹_›⟩))

theorem step_cases (s : PState) (i : Nat) :
    s.stepThread i = s ∨ ∃ t, s.threads[i]? = some t ∧ Step s i t (s.stepThread i) := by
  cases hp : s.panicked with
  | true => exact .inl (by unfold stepThread; rw [if_pos hp])
  | false =>
    cases ht : s.threads[i]? with
    | none => exact .inl (by unfold stepThread; rw [if_neg (by simp [hp]), ht])
    | some t => exact .inr ⟨t, rfl, step_spec hp ht⟩

theorem Step.refused {s s' : PState} {i st : Nat} {t : Thread} {e : CErr} (h : Step s i t s')
    (hpc : t.pc = .havePermit st) (hc : s.oracle.check t.req.keys st = .error e) : ∃ r, s' = s.finish i t r := by
  cases h with
  | refuse => exact ⟨_, rfl⟩
  | overflow st' h hc' | enqueue st' h hc' | enqueueWal st' h hc' =>
    cases hpc.symm.trans h
    cases hc.symm.trans hc'
  | stay h => rcases h with h | ⟨_, h, _⟩ | ⟨_, h, _⟩ <;> exact absurd (hpc.symm.trans h) nofun
  | pubTop _ _ h => rcases h with h | ⟨h, _⟩ <;> exact absurd (hpc.symm.trans h) nofun
  | returnRes _ _ h => rcases h with h | h <;> exact absurd (hpc.symm.trans h) nofun
  | retEmpty _ h | acquire _ h | applyFail _ _ _ h | applyNext _ _ _ h | applyLast _ _ _ h | markOk _ _ h
  | markErr _ _ h | setVisible _ _ _ h | publish _ _ _ h | returnErr _ _ h | wait _ h =>
    exact absurd (hpc.symm.trans h) nofun

theorem Step.cap_visible {s s' : PState} {i : Nat} {t : Thread} (h : Step s i t s') :
    s'.cap = s.cap ∧ s.visible ≤ s'.visible := by
  cases h with
  | setVisible => exact ⟨rfl, Nat.le_max_left ..⟩
  | pubTop => exact ⟨publishTop_cap .., Nat.le_of_eq (publishTop_visible ..).symm⟩
  | publish => rw [publishTop_cap, publishTop_visible]; simp
  | _ => simp [enq]

theorem Step.panicked {s s' : PState} {i : Nat} {t : Thread} (hs : Step s i t s')
    (hq : ∀ st, t.pc = .havePermit st → s.queue.length < s.cap) : s'.panicked = s.panicked := by
  cases hs with
  | overflow st hpc _ hov => exact absurd (hq st hpc) (Nat.not_lt.mpr hov)
  | pubTop => exact publishTop_panicked ..
  | publish => rw [publishTop_panicked, dropBatch_panicked, complete_panicked]
  | _ => simp [enq]

theorem stepThread_cap_visible (s : PState) (i : Nat) :
    (s.stepThread i).cap = s.cap ∧ s.visible ≤ (s.stepThread i).visible := by
  rcases step_cases s i with e | ⟨t, _, h⟩
  · rw [e]; exact ⟨rfl, Nat.le_refl _⟩
  · exact h.cap_visible

/-! `measure` adds up, over the threads, how far each is from the end of its `commit()` call, plus twice
the queue length (a publisher that takes one more batch off the queue goes one place back in its own
loop). -/

def Pc.rank (n : Nat) : Pc → Nat
  | .ready => 0
  | .waiting _ => 1
  | .afterPublish _ _ => 2
  | .pubVisible .. => 3
  | .pubDequeued .. => 4
  | .afterMark .. => 5
  | .walFailed _ => 5
  | .afterApply .. => 6
  | .applying _ c j => 7 + (c - j)
  | .havePermit _ => 10 + n
  | .begun _ => 11 + n

def Thread.rank (t : Thread) : Nat := t.pc.rank t.req.keys.length

def msr (ths : List Thread) (qlen : Nat) : Nat := (ths.map Thread.rank).sum + 2 * qlen

def PState.measure (s : PState) : Nat := msr s.threads s.queue.length

theorem measure_lt_of {s s' : PState} {i : Nat} {t0 t' : Thread} (h : s.threads[i]? = some t0)
    (hth : s'.threads = s.threads.set i t')
    (hlt : t'.rank + 2 * s'.queue.length < t0.rank + 2 * s.queue.length) : s'.measure < s.measure := by
  have := List.sum_map_set Thread.rank t' h
  unfold PState.measure msr
  rw [hth]; omega

/-- `s0` is the state of a step from `s` that has left threads and queue alone so far -/
theorem PubTop.thread {s0 s s' : PState} {i f : Nat} {t : Thread} {k : FK} (h : PubTop s0 i t f k s')
    (h1 : s0.threads = s.threads) (h2 : s0.queue = s.queue) {r : Nat} (hr : 2 < r) :
    ∃ t', s'.threads = s.threads.set i t' ∧ t'.req = t.req ∧
      t'.rank + 2 * s'.queue.length < r + 2 * s.queue.length ∧
      ∀ st, t'.pc = .havePermit st → t.req.keys.isEmpty = false := by
  rw [← h1, ← h2]
  cases h with
  | dequeue b rest hq ha => exact ⟨_, rfl, rfl, by simp [hq, Thread.rank, Pc.rank]; omega, fun _ h => by cases h⟩
  | leaveWal => exact ⟨_, finish_threads .., rfl, by simp [Thread.rank, Pc.rank]; omega, fun _ h => by cases h⟩
  | leave => exact ⟨_, rfl, rfl, by simp [Thread.rank, Pc.rank]; omega, fun _ h => by cases h⟩

theorem Step.thread {s s' : PState} {i : Nat} {t : Thread} (h : Step s i t s') :
    s' = s ∧ Stuck s t ∨ s' = { s with panicked := true } ∨
    ∃ t', s'.threads = s.threads.set i t' ∧ t'.req = t.req ∧
      t'.rank + 2 * s'.queue.length < t.rank + 2 * s.queue.length ∧
      ∀ st, t'.pc = .havePermit st → t.req.keys.isEmpty = false := by
  cases h with
  | stay h => exact .inl ⟨rfl, h⟩
  | overflow => exact .inr (.inl rfl)
  | pubTop f k hpc =>
    exact .inr <| .inr <| (publishTop_spec ..).thread rfl rfl
      (by rcases hpc with h | ⟨h, _⟩ <;> simp [Thread.rank, h, Pc.rank])
  | publish b f k hpc =>
    exact .inr <| .inr <| (publishTop_spec ..).thread (by simp) (by simp) (by simp [Thread.rank, hpc, Pc.rank])
  | acquire st hpc he =>
    exact .inr (.inr ⟨_, rfl, rfl, by simp [Thread.rank, hpc, Pc.rank], fun _ _ => he⟩)
  | returnRes f r hpc =>
    refine .inr (.inr ⟨_, finish_threads .., rfl, ?_, fun _ h => by cases h⟩)
    rcases hpc with h | h <;> simp [Thread.rank, h, Pc.rank]
  | refuse st hpc | returnErr f k hpc =>
    exact .inr (.inr ⟨_, finish_threads .., rfl, by simp [Thread.rank, hpc, Pc.rank] <;> omega, fun _ h => by cases h⟩)
  | enqueueWal st hpc =>
    exact .inr (.inr ⟨{ t with pc := .walFailed s.logSeq }, by simp [enq], rfl,
      by simp [Thread.rank, hpc, Pc.rank, enq] <;> omega, fun _ h => by cases h⟩)
  | markErr f c hpc =>
    exact .inr (.inr ⟨{ t with pc := .afterMark f .apply }, by simp, rfl,
      by simp [Thread.rank, hpc, Pc.rank], fun _ h => by cases h⟩)
  | retEmpty st hpc | enqueue st hpc | applyFail f c j hpc | applyNext f c j hpc | applyLast f c j hpc
  | markOk f c hpc | setVisible b f k hpc | wait f hpc =>
    exact .inr (.inr ⟨_, rfl, rfl, by simp [Thread.rank, hpc, Pc.rank, enq] <;> omega, fun _ h => by cases h⟩)

/-- a thread holding a permit has a non-empty batch (`commit` returns early on an empty one) -/
def ReqInv (s : PState) : Prop :=
  ∀ (i : Nat) (t : Thread), s.threads[i]? = some t → ∀ st, t.pc = .havePermit st → 1 ≤ t.req.keys.length

theorem reqInv_set {s s' : PState} {i : Nat} {t' : Thread} (h : ReqInv s) (hth : s'.threads = s.threads.set i t')
    (hnew : ∀ st, t'.pc = .havePermit st → 1 ≤ t'.req.keys.length) : ReqInv s' := by
  intro j t hj st hst
  rw [hth] at hj
  rcases List.getElem?_set_cases hj with ⟨_, rfl⟩ | ⟨_, hj⟩
  · exact hnew st hst
  · exact h j t hj st hst

theorem reqInv_step {s : PState} (h : ReqInv s) (i : Nat) : ReqInv (s.stepThread i) := by
  rcases step_cases s i with e | ⟨t, ht, hs⟩
  · rw [e]; exact h
  · rcases hs.thread with ⟨e, _⟩ | hp | ⟨t', hth, hreq, _, hpc⟩
    · rw [e]; exact h
    · rw [hp]; exact h
    · exact reqInv_set h hth fun st hst => hreq ▸ List.length_pos_iff.mpr (by simpa using hpc st hst)

theorem step_decreases {s : PState} {i : Nat} (hne : s.stepThread i ≠ s)
    (hnp : (s.stepThread i).panicked = false) : (s.stepThread i).measure < s.measure := by
  rcases step_cases s i with e | ⟨t, ht, hs⟩
  · exact absurd e hne
  · rcases hs.thread with ⟨e, _⟩ | hp | ⟨t', hth, _, hlt, _⟩
    · exact absurd e hne
    · rw [hp] at hnp; cases hnp
    · exact measure_lt_of ht hth hlt

theorem stuck_of_step_eq {s : PState} {i : Nat} {t : Thread} (hp : s.panicked = false)
    (ht : s.threads[i]? = some t) (hs : s.stepThread i = s) : Stuck s t := by
  rcases (step_spec hp ht).thread with ⟨_, h⟩ | h | ⟨t', hth, _, hlt, _⟩
  · exact h
  · rw [hs] at h; rw [h] at hp; cases hp
  · have := measure_lt_of ht hth hlt
    rw [hs] at this; exact absurd this (Nat.lt_irrefl _)

inductive POp
  | begin (i : Nat) (req : CommitReq)
  | step (i : Nat)
deriving Repr

def PState.apply (s : PState) : POp → PState
  | .begin i req => s.begin i req
  | .step i => s.stepThread i

def PState.run (s : PState) : List POp → PState
  | [] => s
  | op :: ops => PState.run (s.apply op) ops

theorem PState.run_append (s : PState) (a b : List POp) : s.run (a ++ b) = (s.run a).run b := by
  induction a generalizing s with
  | nil => rfl
  | cons x xs ih => exact ih _

theorem begin_cases (s : PState) (i : Nat) (req : CommitReq) :
    s.begin i req = s ∨ ∃ t, s.threads[i]? = some t ∧ t.pc = .ready ∧
      s.begin i req = s.setThread i { t with pc := .begun s.visible, req := req } := by
  unfold PState.begin
  split
  · rename_i t ht
    split
    · exact .inr ⟨t, ht, by simpa using ‹(t.pc == Pc.ready) = true›, rfl⟩
    · exact .inl rfl
  · exact .inl rfl

theorem run_induction {I : PState → Prop} (hb : ∀ s i req, I s → I (s.begin i req))
    (hs : ∀ s i, I s → I (s.stepThread i)) {s : PState} (h : I s) (ops : List POp) : I (s.run ops) := by
  induction ops generalizing s with
  | nil => exact h
  | cons op ops ih =>
    cases op with
    | begin i req => exact ih (hb s i req h)
    | step i => exact ih (hs s i h)

theorem reqInv_begin {s : PState} (h : ReqInv s) (i : Nat) (req : CommitReq) : ReqInv (s.begin i req) := by
  rcases begin_cases s i req with e | ⟨t, _, _, e⟩ <;> rw [e]
  · exact h
  · exact reqInv_set h rfl fun st hst => by cases hst

/-- initial states: any thread count, GC interval, permit count and queue capacity -/
def PState.initWith (n gc permits cap : Nat) : PState := { PState.init n with gc := gc, permits := permits, cap := cap }

theorem init_thread {n i : Nat} {t : Thread} (h : (PState.init n).threads[i]? = some t) : t = {} := by
  simp only [PState.init, List.getElem?_replicate] at h
  split at h
  · exact (Option.some.inj h).symm
  · cases h

theorem reqInv_initWith (n gc p c : Nat) : ReqInv (PState.initWith n gc p c) := fun i t h st hst => by
  rw [init_thread h] at hst; cases hst

/-- a schedule every step of which changes the state -/
def allEffective : PState → List Nat → Prop
  | _, [] => True
  | s, i :: is => s.stepThread i ≠ s ∧ allEffective (s.stepThread i) is

def PState.runSched (s : PState) (sched : List Nat) : PState := s.run (sched.map POp.step)
