import Skv.Model.Sst
/-! `firstGE`, `firstGEk`, `findPart` and the landing positions of `specSeekFirst` / `specSeekLast` all
are `(l.takeWhile p).length` for some `p`: the first section is about that number for any `p` and
knows nothing of keys or order. -/

theorem eq_take_append_cons_drop {β : Type} {l : List β} {j : Nat} {b : β} (h : l[j]? = some b) :
    l = l.take j ++ b :: l.drop (j + 1) := by
  obtain ⟨hj, rfl⟩ := List.getElem?_eq_some_iff.mp h
  rw [← List.drop_eq_getElem_cons hj, List.take_append_drop]

theorem getElem?_flatMap_offset {α β : Type} (f : β → List α) {ls : List β} {j : Nat} {b : β} (h : ls[j]? = some b) (i : Nat) :
    (ls.flatMap f)[((ls.take j).flatMap f).length + i]? = (f b ++ (ls.drop (j + 1)).flatMap f)[i]? := by
  have : ((ls.take j ++ b :: ls.drop (j + 1)).flatMap f)[((ls.take j).flatMap f).length + i]? =
      (f b ++ (ls.drop (j + 1)).flatMap f)[i]? := by
    rw [List.flatMap_append, List.flatMap_cons, List.getElem?_append_right (Nat.le_add_right _ _),
      Nat.add_sub_cancel_left]
  rwa [← eq_take_append_cons_drop h] at this

section PartitionPoint
variable {α β : Type} {p : α → Bool}

theorem length_takeWhile_le (l : List α) : (l.takeWhile p).length ≤ l.length :=
  (List.takeWhile_prefix p).length_le

theorem length_takeWhile_cons (p : α → Bool) (a : α) (l : List α) :
    ((a :: l).takeWhile p).length = if p a then (l.takeWhile p).length + 1 else 0 := by
  rw [List.takeWhile_cons]
  cases p a <;> rfl

theorem of_mem_take_length_takeWhile (p : α → Bool) {l : List α} {x : α} (h : x ∈ l.take (l.takeWhile p).length) : p x = true := by
  rw [← List.prefix_iff_eq_take.mp (List.takeWhile_prefix p)] at h
  exact List.all_eq_true.mp List.all_takeWhile x h

theorem takeWhile_congr {p q : α → Bool} {l : List α} (h : ∀ x ∈ l, p x = q x) :
    l.takeWhile p = l.takeWhile q := by
  induction l with
  | nil => rfl
  | cons a l ih =>
    rw [List.takeWhile_cons, List.takeWhile_cons, h a List.mem_cons_self,
      ih fun x hx => h x (List.mem_cons_of_mem _ hx)]

theorem length_takeWhile_eq_length {l : List α} : (l.takeWhile p).length = l.length ↔ ∀ x ∈ l, p x = true := by
  constructor
  · intro h x hx
    rw [← (List.takeWhile_prefix p).eq_of_length h] at hx
    exact List.all_eq_true.mp List.all_takeWhile x hx
  · intro h
    have := List.takeWhile_append_of_pos (l₂ := []) h
    rw [List.append_nil, List.takeWhile_nil, List.append_nil] at this
    exact congrArg List.length this

theorem not_of_getElem?_length_takeWhile (p : α → Bool) {l : List α} {x : α} (h : l[(l.takeWhile p).length]? = some x) :
    p x = false := by
  induction l with
  | nil => cases h
  | cons a l ih =>
    cases ha : p a with
    | true =>
      rw [List.takeWhile_cons_of_pos ha, List.length_cons, List.getElem?_cons_succ] at h
      exact ih h
    | false =>
      rw [List.takeWhile_cons_of_neg (Bool.eq_false_iff.mp ha)] at h
      cases h
      exact ha

theorem length_takeWhile_eq {l : List α} {n : Nat} (h1 : ∀ x ∈ l.take n, p x = true)
    (h2 : ∀ x, l[n]? = some x → p x = false) (hn : n ≤ l.length) : (l.takeWhile p).length = n := by
  rw [← List.take_append_drop n l, List.takeWhile_append_of_pos h1, List.length_append, List.length_take,
    Nat.min_eq_left hn]
  cases hd : l.drop n with
  | nil => rfl
  | cons x xs =>
    have hx : l[n]? = some x := by rw [← List.head?_drop, hd]; rfl
    rw [List.takeWhile_cons_of_neg (Bool.eq_false_iff.mp (h2 x hx))]
    rfl

theorem length_takeWhile_append_head (p : α → Bool) (l₁ l₂ : List α) (h : ∀ x, l₂.head? = some x → p x = false) :
    ((l₁ ++ l₂).takeWhile p).length = (l₁.takeWhile p).length := by
  rw [List.takeWhile_append]
  by_cases hl : (l₁.takeWhile p).length = l₁.length
  · rw [if_pos hl]
    cases l₂ with
    | nil => rw [List.takeWhile_nil, List.append_nil, hl]
    | cons x xs => rw [List.takeWhile_cons_of_neg (Bool.eq_false_iff.mp (h x rfl)), List.append_nil, hl]
  · rw [if_neg hl]

/-- two-level search: `Q` is the coarse test on whole sublists (an index key below the target); a
sublist passing `Q` consists of elements passing `p`, and after a sublist failing `Q` every element
fails `p`.  The list splits at the partition point of `Q`: what lies before is skipped, and the
search in the sublist found there is not disturbed by what follows it. -/
theorem length_takeWhile_flatMap (p : α → Bool) (f : β → List α) (Q : β → Bool) (ls : List β)
    (hQ : ∀ b ∈ ls, Q b = true → ∀ x ∈ f b, p x = true)
    (hstop : ls.Pairwise fun b c => Q b = false → ∀ x ∈ f c, p x = false) :
    (ls[(ls.takeWhile Q).length]? = none → ((ls.flatMap f).takeWhile p).length = (ls.flatMap f).length) ∧
    ∀ b, ls[(ls.takeWhile Q).length]? = some b →
      ((ls.flatMap f).takeWhile p).length =
        ((ls.take (ls.takeWhile Q).length).flatMap f).length + ((f b).takeWhile p).length := by
  have hpre : ∀ x ∈ (ls.take (ls.takeWhile Q).length).flatMap f, p x = true := fun x hx => by
    obtain ⟨c, hc, hx⟩ := List.mem_flatMap.mp hx
    exact hQ c (List.mem_of_mem_take hc) (of_mem_take_length_takeWhile Q hc) x hx
  refine ⟨fun h => ?_, fun b h => ?_⟩
  · rw [List.take_of_length_le (List.getElem?_eq_none_iff.mp h)] at hpre
    exact length_takeWhile_eq_length.mpr hpre
  · have hls := eq_take_append_cons_drop h
    rw [hls, List.pairwise_append, List.pairwise_cons] at hstop
    rw [congrArg (List.flatMap f) hls, List.flatMap_append, List.flatMap_cons,
      List.takeWhile_append_of_pos hpre, List.length_append, length_takeWhile_append_head]
    intro x hx
    obtain ⟨c, hc, hx⟩ := List.mem_flatMap.mp (List.mem_of_mem_head? hx)
    exact hstop.2.1.1 c hc (not_of_getElem?_length_takeWhile Q h) x hx

end PartitionPoint

theorem ikLt_iff {a b : IKey} : ikLt a b = true ↔ a.uk < b.uk ∨ (a.uk = b.uk ∧ b.seq < a.seq) := by
  simp [ikLt]

theorem ikLt_irrefl (a : IKey) : ikLt a a = false := by simp [ikLt]

theorem ikLt_trans {a b c : IKey} (h1 : ikLt a b = true) (h2 : ikLt b c = true) : ikLt a c = true := by
  rw [ikLt_iff] at *
  rcases h1 with h1 | ⟨e1, s1⟩ <;> rcases h2 with h2 | ⟨e2, s2⟩
  · exact .inl (List.lt_trans h1 h2)
  · exact .inl (e2 ▸ h1)
  · exact .inl (e1 ▸ h2)
  · exact .inr ⟨e1.trans e2, Nat.lt_trans s2 s1⟩

theorem ikLt_total (a b : IKey) : ikLt a b = true ∨ a = b ∨ ikLt b a = true := by
  obtain ⟨ua, sa⟩ := a
  obtain ⟨ub, sb⟩ := b
  simp only [ikLt_iff, IKey.mk.injEq]
  by_cases h : ua < ub
  · exact .inl (.inl h)
  · rcases List.le_iff_lt_or_eq.mp (List.not_lt.mp h) with h' | rfl
    · exact .inr (.inr (.inl h'))
    · rcases Nat.lt_trichotomy sa sb with s | rfl | s
      · exact .inr (.inr (.inr ⟨rfl, s⟩))
      · exact .inr (.inl ⟨rfl, rfl⟩)
      · exact .inl (.inr ⟨rfl, s⟩)

theorem ikLe_iff {a b : IKey} : ikLe a b = true ↔ ikLt a b = true ∨ a = b := by
  simp only [ikLe, Bool.not_eq_true']
  constructor
  · intro h
    rcases ikLt_total a b with h' | h' | h'
    · exact .inl h'
    · exact .inr h'
    · rw [h] at h'; cases h'
  · rintro (h | rfl)
    · exact Bool.eq_false_iff.mpr fun h' => Bool.eq_false_iff.mp (ikLt_irrefl a) (ikLt_trans h h')
    · exact ikLt_irrefl a

theorem ikLe_refl (a : IKey) : ikLe a a = true := ikLe_iff.mpr (.inr rfl)

theorem ikLe_of_lt {a b : IKey} (h : ikLt a b = true) : ikLe a b = true := ikLe_iff.mpr (.inl h)

theorem ikLt_of_le_of_lt {a b c : IKey} (h1 : ikLe a b = true) (h2 : ikLt b c = true) : ikLt a c = true := by
  rcases ikLe_iff.mp h1 with h | rfl
  · exact ikLt_trans h h2
  · exact h2

theorem ikLt_of_lt_of_le {a b c : IKey} (h1 : ikLt a b = true) (h2 : ikLe b c = true) : ikLt a c = true := by
  rcases ikLe_iff.mp h2 with h | rfl
  · exact ikLt_trans h1 h
  · exact h1

theorem ikLe_trans {a b c : IKey} (h1 : ikLe a b = true) (h2 : ikLe b c = true) : ikLe a c = true := by
  rcases ikLe_iff.mp h1 with h | rfl
  · exact ikLe_of_lt (ikLt_of_lt_of_le h h2)
  · exact h2

theorem ikLt_false_of_lt {a b t : IKey} (h : ikLt a b = true) (ha : ikLt a t = false) : ikLt b t = false :=
  Bool.eq_false_iff.mpr fun hb => Bool.eq_false_iff.mp ha (ikLt_trans h hb)

theorem uk_le_of_not_lt {a b : IKey} (h : ikLt a b = false) : b.uk ≤ a.uk :=
  List.not_lt.mp fun hlt => Bool.eq_false_iff.mp h (ikLt_iff.mpr (.inl hlt))

theorem uk_lt_of_not_lt {a b : IKey} (h : ikLt a b = false) (hne : a.uk ≠ b.uk) : b.uk < a.uk :=
  (List.le_iff_lt_or_eq.mp (uk_le_of_not_lt h)).resolve_right (Ne.symm hne)

theorem uk_le_of_ikLe {a b : IKey} (h : ikLe a b = true) : a.uk ≤ b.uk :=
  uk_le_of_not_lt ((Bool.not_eq_true' _).mp h)

theorem sortedEnts_iff {es : List Ent} : sortedEnts es = true ↔ es.Pairwise (fun a b => ikLt a.k b.k = true) := by
  induction es with
  | nil => exact ⟨fun _ => .nil, fun _ => rfl⟩
  | cons a l ih =>
    cases l with
    | nil => exact ⟨fun _ => List.pairwise_singleton _ _, fun _ => rfl⟩
    | cons b l =>
      rw [sortedEnts, Bool.and_eq_true, ih, List.pairwise_cons (a := a), List.pairwise_cons (a := b)]
      constructor
      · rintro ⟨hab, hb, hl⟩
        refine ⟨fun x hx => ?_, hb, hl⟩
        rcases List.mem_cons.mp hx with rfl | hx
        · exact hab
        · exact ikLt_trans hab (hb x hx)
      · rintro ⟨ha, hb, hl⟩
        exact ⟨ha b List.mem_cons_self, hb, hl⟩

theorem sortedEnts_append {a b : List Ent} (h : sortedEnts (a ++ b) = true) :
    sortedEnts a = true ∧ sortedEnts b = true := by
  rw [sortedEnts_iff, List.pairwise_append] at h
  exact ⟨sortedEnts_iff.mpr h.1, sortedEnts_iff.mpr h.2.1⟩

theorem sorted_head_le {es : List Ent} (hs : sortedEnts es = true) {f : Ent} (hf : es.head? = some f) :
    ∀ e ∈ es, ikLe f.k e.k = true := by
  obtain ⟨ys, rfl⟩ := List.head?_eq_some_iff.mp hf
  intro e he
  rcases List.mem_cons.mp he with rfl | he
  · exact ikLe_refl _
  · exact ikLe_of_lt ((List.pairwise_cons.mp (sortedEnts_iff.mp hs)).1 e he)

theorem sorted_le_last {es : List Ent} (hs : sortedEnts es = true) {l : Ent} (hl : es.getLast? = some l) :
    ∀ e ∈ es, ikLe e.k l.k = true := by
  obtain ⟨ys, rfl⟩ := List.getLast?_eq_some_iff.mp hl
  intro e he
  rcases List.mem_append.mp he with he | he
  · exact ikLe_of_lt ((List.pairwise_append.mp (sortedEnts_iff.mp hs)).2.2 e he l List.mem_cons_self)
  · rw [List.mem_singleton.mp he]
    exact ikLe_refl _

theorem firstGE_cons (e : Ent) (es : List Ent) (t : IKey) :
    firstGE (e :: es) t = if ikLt e.k t then firstGE es t + 1 else 0 := length_takeWhile_cons _ _ _

theorem firstGEk_cons (k : IKey) (ks : List IKey) (t : IKey) :
    firstGEk (k :: ks) t = if ikLt k t then firstGEk ks t + 1 else 0 := length_takeWhile_cons _ _ _

theorem firstGE_le (es : List Ent) (t : IKey) : firstGE es t ≤ es.length := length_takeWhile_le es

theorem firstGEk_le (ks : List IKey) (t : IKey) : firstGEk ks t ≤ ks.length := length_takeWhile_le ks

theorem firstGE_before {es : List Ent} {t : IKey} {i : Nat} (hi : i < firstGE es t) :
    ∃ e, es[i]? = some e ∧ ikLt e.k t = true := by
  have hlt := Nat.lt_of_lt_of_le hi (firstGE_le es t)
  exact ⟨es[i], List.getElem?_eq_getElem hlt, of_mem_take_length_takeWhile (fun e : Ent => ikLt e.k t)
    (List.mem_take_iff_getElem.mpr ⟨i, Nat.lt_min.mpr ⟨hi, hlt⟩, rfl⟩)⟩

theorem firstGE_at {es : List Ent} {t : IKey} {e : Ent} (h : es[firstGE es t]? = some e) :
    ikLt e.k t = false := not_of_getElem?_length_takeWhile (fun e : Ent => ikLt e.k t) h

theorem firstGE_after (es : List Ent) (hs : sortedEnts es = true) (t : IKey) (i : Nat) (e : Ent)
    (hi : firstGE es t ≤ i) (he : es[i]? = some e) : ikLt e.k t = false := by
  obtain ⟨hi', rfl⟩ := List.getElem?_eq_some_iff.mp he
  have hP : firstGE es t < es.length := Nat.lt_of_le_of_lt hi hi'
  have hat := firstGE_at (List.getElem?_eq_getElem hP)
  rcases Nat.eq_or_lt_of_le hi with h | h
  · simpa only [h] using hat
  · exact ikLt_false_of_lt (List.pairwise_iff_getElem.mp (sortedEnts_iff.mp hs) _ _ hP hi' h) hat

theorem firstGE_all_lt (es : List Ent) (t : IKey) (h : ∀ e ∈ es, ikLt e.k t = true) :
    firstGE es t = es.length := length_takeWhile_eq_length.mpr h

theorem isBeforeRange_of_satLower {lo : Bnd} {a b : List Nat} (h : satLower lo a = true) (hab : a ≤ b) :
    isBeforeRange b lo = false := by
  cases lo with
  | unb => rfl
  | incl k =>
    simp only [satLower, Bool.not_eq_true', decide_eq_false_iff_not] at h
    simp only [isBeforeRange, decide_eq_false_iff_not]
    exact fun h' => h (List.lt_of_le_of_lt hab h')
  | excl k =>
    simp only [satLower, decide_eq_true_eq] at h
    simp only [isBeforeRange, Bool.not_eq_false', decide_eq_true_eq]
    exact Std.lt_of_lt_of_le h hab

theorem isAfterRange_of_satUpper {hi : Bnd} {a b : List Nat} (h : satUpper hi b = true) (hab : a ≤ b) :
    isAfterRange a hi = false := by
  cases hi with
  | unb => rfl
  | incl k =>
    simp only [satUpper, Bool.not_eq_true', decide_eq_false_iff_not] at h
    simp only [isAfterRange, decide_eq_false_iff_not]
    exact fun h' => h (Std.lt_of_lt_of_le h' hab)
  | excl k =>
    simp only [satUpper, decide_eq_true_eq] at h
    simp only [isAfterRange, Bool.not_eq_false', decide_eq_true_eq]
    exact List.lt_of_le_of_lt hab h
