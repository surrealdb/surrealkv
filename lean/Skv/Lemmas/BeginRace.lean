import Skv.Model.BeginRace

structure BInv (s : BR) : Prop where
  capLe : ∀ l v, s.captured = some (l, v) → v ≤ s.visible
  safe : s.safe

theorem binv_init : BInv {} := ⟨nofun, trivial⟩

theorem binv_step {s : BR} (h : BInv s) (op : BOp) (ha : atomicOp op = true) : BInv (s.step op) := by
  cases op with
  | load => cases ha
  | register => cases ha
  | commit =>
    refine ⟨?_, h.safe⟩
    intro l v hc
    exact Nat.le_succ_of_le (h.capLe l v hc)
  | capture =>
    refine ⟨?_, ?_⟩
    · intro l v hc
      simp only [BR.step, Option.some.injEq, Prod.mk.injEq] at hc
      show v ≤ s.visible
      omega
    · simp [BR.step, BR.safe]
  | beginAtomic =>
    refine ⟨?_, ?_⟩
    · intro l v hc
      exact h.capLe l v (by simpa [BR.step, BR.reg] using hc)
    · have hsafe := h.safe
      unfold BR.safe at hsafe ⊢
      cases hc : s.captured with
      | none => simp [BR.step, BR.reg, hc]
      | some p =>
        obtain ⟨l, v⟩ := p
        simp only [hc] at hsafe
        simp only [BR.step, BR.reg, hc, Option.isSome_some, if_true]
        intro q hq
        rcases List.mem_cons.mp hq with rfl | hq
        · exact h.capLe l v hc
        · exact hsafe q hq

theorem binv_run {s : BR} (h : BInv s) (ops : List BOp) (ha : ∀ op ∈ ops, atomicOp op = true) : BInv (s.run ops) :=
  List.foldlRecOn ops _ h fun _ hs op ho => binv_step hs op (ha op ho)
