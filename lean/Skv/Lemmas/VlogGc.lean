import Skv.Model.VlogGc

theorem tabOldest_eq (ptrs : List Nat) : tabOldest ptrs = ptrs.min?.getD 0 := by
  cases ptrs <;> rfl

theorem minOldest_eq (ts : List VTab) : minOldest ts = ((ts.map (·.oldest)).filter (· > 0)).min?.getD 0 := by
  unfold minOldest
  split <;> simp only [*] <;> rfl

theorem tabOldest_le {ptrs : List Nat} {p : Nat} (hp : p ∈ ptrs) : tabOldest ptrs ≤ p :=
  tabOldest_eq ptrs ▸ List.min?_getD_le_of_mem hp

theorem tabOldest_pos {ptrs : List Nat} (hne : ptrs ≠ []) (hpos : ∀ p ∈ ptrs, 0 < p) : 0 < tabOldest ptrs := by
  obtain ⟨m, hm⟩ := Option.isSome_iff_exists.mp (List.isSome_min?_of_ne_nil hne)
  rw [tabOldest_eq, hm]
  exact hpos m (List.min?_mem hm)

theorem minOldest_le {ts : List VTab} {t : VTab} (ht : t ∈ ts) (hpos : 0 < t.oldest) : minOldest ts ≤ t.oldest :=
  minOldest_eq ts ▸ List.min?_getD_le_of_mem
    (List.mem_filter.mpr ⟨List.mem_map_of_mem ht, decide_eq_true hpos⟩)

theorem VS.mem_cleanup_files {s : VS} {f : Nat} :
    f ∈ s.cleanup.files ↔ f ∈ s.files ∧ (minOldest s.tables ≤ f ∨ f = s.active) := by
  simp [VS.cleanup, Nat.not_lt]

theorem VS.inv.cleanup {s : VS} (h : s.inv) : s.cleanup.inv := fun t ht p hp =>
  have ⟨h1, h2, h3⟩ := h t ht p hp
  ⟨VS.mem_cleanup_files.mpr ⟨h1, .inl (Nat.le_trans (minOldest_le ht h2) h3)⟩, h2, h3⟩

theorem VS.inv.addTable {s : VS} (h : s.inv) (id : Nat) {ptrs : List Nat}
    (hex : ∀ p ∈ ptrs, p ∈ s.files) (hpos : ∀ p ∈ ptrs, 0 < p) : (s.addTable id ptrs).inv := by
  intro t ht p hp
  rcases List.mem_cons.mp ht with h1 | h1
  · subst h1
    exact ⟨hex p hp, tabOldest_pos (List.ne_nil_of_mem hp) hpos, tabOldest_le hp⟩
  · exact h t h1 p hp

theorem VS.inv.dropTables {s : VS} (h : s.inv) (ids : List Nat) : (s.dropTables ids).inv := by
  intro t ht p hp
  exact h t (List.mem_filter.mp ht).1 p hp

theorem VS.inv.newFile {s : VS} (h : s.inv) (f : Nat) : (s.newFile f).inv := by
  intro t ht p hp
  obtain ⟨h1, h2, h3⟩ := h t ht p hp
  exact ⟨List.mem_cons_of_mem _ h1, h2, h3⟩

/-- the end of a compaction round: the output carries the pointers of the inputs, which were live until now -/
theorem VS.inv.finish {s : VS} (h : s.inv) (newId : Nat) (hidden : List Nat) :
    ((s.addTable newId ((s.tables.filter (fun t => hidden.contains t.id)).flatMap (·.ptrs))).dropTables hidden).inv := by
  have hin : ∀ p ∈ (s.tables.filter (fun t => hidden.contains t.id)).flatMap (·.ptrs), p ∈ s.files ∧ 0 < p := by
    intro p hp
    obtain ⟨t, ht, hpt⟩ := List.mem_flatMap.mp hp
    have := h t (List.mem_filter.mp ht).1 p hpt
    exact ⟨this.1, by omega⟩
  exact (h.addTable _ (fun p hp => (hin p hp).1) (fun p hp => (hin p hp).2)).dropTables _
