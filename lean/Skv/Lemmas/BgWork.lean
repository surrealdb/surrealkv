import Skv.Model.BgWork

/-- invariant of the repaired scheduler (`wake = true`: a foreground flush notifies the compaction task too);
no step writes `trigger` or `stallAt` -/
def BgInv (s : BgState) : Prop :=
  0 < s.trigger ∧ s.trigger ≤ s.stallAt ∧ (s.trigger ≤ s.l0 → s.scheduled = true)

theorem bginv_init {s : BgState} (h0 : s.l0 = 0) (ht : 0 < s.trigger) (hts : s.trigger ≤ s.stallAt) : BgInv s :=
  ⟨ht, hts, fun hc => absurd (h0 ▸ hc) (Nat.not_le_of_gt ht)⟩

theorem bginv_step {s : BgState} (h : BgInv s) (op : BgOp) : BgInv (s.step true op) := by
  obtain ⟨h1, h2, h3⟩ := h
  cases op with
  | bgFlush => exact ⟨h1, h2, fun _ => rfl⟩
  | fgFlush => exact ⟨h1, h2, fun _ => Bool.or_true _⟩
  | compactRun =>
    dsimp only [BgState.step]
    split
    · -- the round leaves L0 empty, or found it below the trigger
      refine ⟨h1, h2, fun hc => absurd hc ?_⟩
      show ¬s.trigger ≤ if s.trigger ≤ s.l0 then 0 else s.l0
      split
      · exact Nat.not_le_of_gt h1
      · assumption
    · exact ⟨h1, h2, h3⟩

theorem bginv_run {s : BgState} (h : BgInv s) (ops : List BgOp) : BgInv (s.run true ops) :=
  List.foldlRecOn ops _ h fun _ hs op _ => bginv_step hs op

theorem BgState.step_compactRun {s : BgState} {w : Bool} (hs : s.scheduled = true) (ht : s.trigger ≤ s.l0) :
    s.step w .compactRun = { s with l0 := 0, scheduled := false } := by
  simp only [BgState.step, hs, ht, if_true]

theorem bginv_stalled {s : BgState} (h : BgInv s) (hst : s.stalled = true) :
    s.scheduled = true ∧ (s.step true .compactRun).stalled = false := by
  obtain ⟨ht, hts, hinv⟩ := h
  have hl : s.trigger ≤ s.l0 := Nat.le_trans hts (of_decide_eq_true hst)
  rw [BgState.step_compactRun (hinv hl) hl]
  exact ⟨hinv hl, decide_eq_false (Nat.not_le_of_gt (Nat.lt_of_lt_of_le ht hts))⟩
