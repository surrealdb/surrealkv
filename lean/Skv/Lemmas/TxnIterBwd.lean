import Skv.Lemmas.TxnIter

/-! the backward half of the transaction range cursor: `position_to_max`, `seek_last`, and `prev` with
its direction-change prologue — the mirror image of `TxnIterFwd`, with an exclusive upper bound `Y`
in place of the frontier `X`; the remarks on proof steps are made there -/

variable {S : List Nat} {W : List (Nat × Bool)} {t : TI} {Y K m : Nat}

theorem wsBefore_prev {c : Cur (Nat × Bool)} {b : Nat × Bool} (hb : c.cur? = some b) :
    wsBefore c.prev < wsBefore c := by
  obtain ⟨xs, _ | ⟨_ | ⟨y, l⟩, x, r⟩⟩ := c
  · cases hb
  · exact Nat.zero_lt_succ _
  · exact Nat.lt_succ_self _

theorem wsBefore_le {c : Cur (Nat × Bool)}
    (h : BSplit Prod.fst W Y c.pos) : wsBefore c ≤ W.length := by
  unfold wsBefore
  cases hp : c.pos with
  | none => exact Nat.zero_le _
  | some z =>
    obtain ⟨l, x, r⟩ := z
    rw [hp] at h
    have := split_length h.1
    show l.length + 1 ≤ W.length
    omega

theorem GreatestLT_shift {Y' : Nat} {r : Option Nat} (h : GreatestLT S W Y' r) (hle : Y' ≤ Y)
    (hgap : ∀ k, Live S W k → k < Y → k < Y') : GreatestLT S W Y r := by
  cases r with
  | none => exact fun k hk => Nat.le_of_not_lt fun hx => Nat.not_le.mpr (hgap k hk hx) (h k hk)
  | some K => exact ⟨h.1, Nat.lt_of_lt_of_le h.2.1 hle, fun k hk hx => h.2.2 k hk (hgap k hk hx)⟩

theorem posMax_succ (f : Nat) (t : TI) : TI.posMax (f + 1) t =
    match t.snap.cur?, t.ws.cur? with
    | none, none => { t with cur := .none, eq := false }
    | some _, none => { t with cur := .snap, eq := false }
    | none, some (_, tb) =>
      if tb then TI.posMax f { t with ws := t.ws.prev } else { t with cur := .ws, eq := false }
    | some a, some (b, tb) =>
      if b < a then { t with cur := .snap, eq := false }
      else if a < b then
        if tb then TI.posMax f { t with ws := t.ws.prev } else { t with cur := .ws, eq := false }
      else if tb then TI.posMax f { t with snap := t.snap.prev, ws := t.ws.prev }
      else { t with cur := .ws, eq := true } := by
  obtain ⟨⟨sxs, spos⟩, ⟨wxs, wpos⟩, eq, cur, dir⟩ := t
  rcases spos with _ | ⟨sl, a, sr⟩ <;> rcases wpos with _ | ⟨wl, ⟨b, tb⟩, wr⟩ <;> rfl

structure BwdReady (S : List Nat) (W : List (Nat × Bool)) (t : TI) (Y : Nat) : Prop where
  sS : SortedBy id S
  sW : SortedBy Prod.fst W
  sxs : t.snap.xs = S
  wxs : t.ws.xs = W
  dir : t.dir = .bwd
  ssplit : BSplit id S Y t.snap.pos
  wsplit : BSplit Prod.fst W Y t.ws.pos

abbrev BwdAt (S : List Nat) (W : List (Nat × Bool)) (t : TI) : Option Nat → Prop :=
  LandedOn (BwdState S W) t

theorem BwdReady.live_cur (h : BwdReady S W t Y)
    {k : Nat} (hk : Live S W k) (hx : k < Y) :
    (∃ a, t.snap.cur? = some a ∧ k ≤ a) ∨ (∃ e, t.ws.cur? = some e ∧ k ≤ e.1) := by
  rcases hk with ⟨hk, _⟩ | hk
  · obtain ⟨b, hb, hab⟩ := h.ssplit.mem_le_cur h.sS hk hx
    exact Or.inl ⟨b, hb, hab⟩
  · obtain ⟨b, hb, hab⟩ := h.wsplit.mem_le_cur h.sW hk hx
    exact Or.inr ⟨b, hb, hab⟩

theorem BwdReady.live_le (h : BwdReady S W t Y)
    (hs : ∀ a, t.snap.cur? = some a → a ≤ m) (hw : ∀ e, t.ws.cur? = some e → e.1 ≤ m)
    {k : Nat} (hk : Live S W k) (hx : k < Y) : k ≤ m := by
  rcases h.live_cur hk hx with ⟨a, ha, hka⟩ | ⟨e, he, hke⟩
  · exact Nat.le_trans hka (hs a ha)
  · exact Nat.le_trans hke (hw e he)

theorem BwdReady.stopSnap (h : BwdReady S W t Y)
    (ha : t.snap.cur? = some K) (hb : ∀ e, t.ws.cur? = some e → e.1 < K) :
    BwdState S W { t with cur := .snap, eq := false } K ∧ GreatestLT S W Y (some K) := by
  have hKY : K < Y := h.ssplit.lt_bound ha
  have hs : ∀ a, t.snap.cur? = some a → a ≤ K := forall_some_of_some ha (Nat.le_refl K)
  have hw : ∀ e, t.ws.cur? = some e → e.1 ≤ K := fun e he => Nat.le_of_lt (hb e he)
  refine ⟨?_, Or.inl ⟨h.ssplit.cur_mem ha, ?_⟩, hKY, fun k hk hx => h.live_le hs hw hk hx⟩
  · exact {
      sxs := h.sxs, wxs := h.wxs, dir := h.dir
      ssplit := h.ssplit.lower hKY fun a h' => Nat.lt_succ_of_le (hs a h')
      wsplit := h.wsplit.lower hKY fun e h' => Nat.lt_succ_of_le (hw e h')
      key := ha
      curSnap := fun _ => ⟨ha, rfl⟩
      curWs := nofun
      wsBehind := fun _ => hb
      curSome := nofun }
  · intro e he hek
    subst hek
    obtain ⟨b, hb', hab⟩ := h.wsplit.mem_le_cur h.sW he hKY
    exact Nat.not_lt.mpr hab (hb b hb')

theorem BwdReady.stopWs (h : BwdReady S W t Y)
    (hb : t.ws.cur? = some (K, false)) (ha : ∀ a, t.snap.cur? = some a → a ≤ K)
    (e : Bool) (he : e = true ↔ t.snap.cur? = some K) :
    BwdState S W { t with cur := .ws, eq := e } K ∧ GreatestLT S W Y (some K) := by
  have hKY : K < Y := h.wsplit.lt_bound hb
  have hw : ∀ e, t.ws.cur? = some e → e.1 ≤ K := forall_some_of_some hb (Nat.le_refl K)
  refine ⟨?_, Or.inr (h.wsplit.cur_mem hb), hKY, fun k hk hx => h.live_le ha hw hk hx⟩
  exact {
    sxs := h.sxs, wxs := h.wxs, dir := h.dir
    ssplit := h.ssplit.lower hKY fun a h' => Nat.lt_succ_of_le (ha a h')
    wsplit := h.wsplit.lower hKY fun e h' => Nat.lt_succ_of_le (hw e h')
    key := by simp [TI.key, hb]
    curSnap := nofun
    curWs := fun _ => ⟨⟨false, hb⟩, he⟩
    wsBehind := nofun
    curSome := nofun }

theorem posMax_ready {fuel : Nat} (h : BwdReady S W t Y) (hf : wsBefore t.ws < fuel) :
    ∃ o, BwdAt S W (TI.posMax fuel t) o ∧ GreatestLT S W Y o := by
  induction fuel generalizing t Y with
  | zero => exact absurd hf (Nat.not_lt_zero _)
  | succ f ih =>
    -- a tombstone at `m` is passed (`t'`: one or both sources moved back): the loop goes on below `m`
    have skip : ∀ m t', t.ws.cur? = some (m, true) → (∀ a, t.snap.cur? = some a → a ≤ m) →
        t'.ws = t.ws.prev → BwdReady S W t' m →
        ∃ o, BwdAt S W (TI.posMax f t') o ∧ GreatestLT S W Y o := by
      intro m t' hb ha hw' h'
      have hf' : wsBefore t'.ws < f := hw' ▸ Nat.lt_of_lt_of_le (wsBefore_prev hb) (Nat.le_of_lt_succ hf)
      obtain ⟨o, ho, hL⟩ := ih h' hf'
      refine ⟨o, ho, GreatestLT_shift hL (Nat.le_of_lt (h.wsplit.lt_bound hb)) fun k hk hx => ?_⟩
      exact Nat.lt_of_le_of_ne (h.live_le ha (forall_some_of_some hb (Nat.le_refl m)) hk hx)
        fun hkm => not_live_tomb h.sW (h.wsplit.cur_mem hb) (hkm ▸ hk)
    have skipWs : ∀ m, t.ws.cur? = some (m, true) → (∀ a, t.snap.cur? = some a → a < m) →
        ∃ o, BwdAt S W (TI.posMax f { t with ws := t.ws.prev }) o ∧ GreatestLT S W Y o := fun m hb ha =>
      skip m _ hb (fun a h' => Nat.le_of_lt (ha a h')) rfl
        ⟨h.sS, h.sW, h.sxs, (Cur.prev_xs _).trans h.wxs, h.dir,
          h.ssplit.lower (Nat.le_of_lt (h.wsplit.lt_bound hb)) ha, h.wsplit.prev h.sW hb⟩
    generalize hr : TI.posMax (f + 1) t = r
    rw [posMax_succ] at hr
    split at hr
    next hs hw =>
      subst hr
      refine ⟨none, rfl, fun k hk => Nat.le_of_not_lt fun hx => ?_⟩
      rcases h.live_cur hk hx with ⟨a, ha, _⟩ | ⟨e, he, _⟩
      · exact nomatch hs.symm.trans ha
      · exact nomatch hw.symm.trans he
    next a hs hw => subst hr; exact ⟨some a, h.stopSnap hs (forall_some_of_none hw)⟩
    next b tb hs hw =>
      subst hr
      cases tb
      · exact ⟨some b, h.stopWs hw (forall_some_of_none hs) false (by simp [hs])⟩
      · exact skipWs b hw (forall_some_of_none hs)
    next a b tb hs hw =>
      rcases Nat.lt_trichotomy b a with hba | rfl | hab
      · rw [if_pos hba] at hr; subst hr
        exact ⟨some a, h.stopSnap hs (forall_some_of_some hw hba)⟩
      · rw [if_neg (Nat.lt_irrefl b), if_neg (Nat.lt_irrefl b)] at hr; subst hr
        cases tb
        · exact ⟨some b, h.stopWs hw (forall_some_of_some hs (Nat.le_refl _)) true (by simp [hs])⟩
        · exact skip b _ hw (forall_some_of_some hs (Nat.le_refl _)) rfl
            ⟨h.sS, h.sW, (Cur.prev_xs _).trans h.sxs, (Cur.prev_xs _).trans h.wxs, h.dir,
              h.ssplit.prev h.sS hs, h.wsplit.prev h.sW hw⟩
      · rw [if_neg (Nat.lt_asymm hab), if_pos hab] at hr; subst hr
        cases tb
        · exact ⟨some b, h.stopWs hw (forall_some_of_some hs (Nat.le_of_lt hab)) false
            ⟨nofun, fun h' => absurd (Option.some.inj (hs.symm.trans h')) (Nat.ne_of_lt hab)⟩⟩
        · exact skipWs b hw (forall_some_of_some hs hab)

theorem posMax_spec (S : List Nat) (W : List (Nat × Bool)) (hS : SortedBy id S) (hW : SortedBy Prod.fst W)
    (fuel : Nat) : ∀ (t : TI) (Y : Nat),
    t.snap.xs = S → t.ws.xs = W → t.dir = .bwd →
    BSplit id S Y t.snap.pos → BSplit Prod.fst W Y t.ws.pos →
    wsBefore t.ws < fuel →
    (∃ K, BwdState S W (TI.posMax fuel t) K ∧ GreatestLT S W Y (some K)) ∨
    ((TI.posMax fuel t).cur = .none ∧ GreatestLT S W Y none) :=
  fun _ _ h1 h2 h3 h4 h5 h6 => LandedOn.some_or_none (posMax_ready ⟨hS, hW, h1, h2, h3, h4, h5⟩ h6)

theorem posMax_fuel (h : BwdReady S W t Y) :
    ∃ o, BwdAt S W (TI.posMax (W.length + 1) t) o ∧ GreatestLT S W Y o :=
  posMax_ready h (Nat.lt_succ_of_le (wsBefore_le h.wsplit))

theorem seekLast_spec (hS : SortedBy id S) (hW : SortedBy Prod.fst W) (hts : t.snap.xs = S) (htw : t.ws.xs = W)
    (hYs : ∀ k ∈ S, k < Y) (hYw : ∀ e ∈ W, e.1 < Y) :
    ∃ o, BwdAt S W t.seekLast o ∧ GreatestLT S W Y o := by
  rw [TI.seekLast, TI.fuel, htw]
  exact posMax_fuel ⟨hS, hW, hts, htw, rfl, BSplit_of_last hts hYs, BSplit_of_last htw hYw⟩

structure MidBwd (S : List Nat) (W : List (Nat × Bool)) (t : TI) (K : Nat) : Prop where
  sxs : t.snap.xs = S
  wxs : t.ws.xs = W
  dir : t.dir = .bwd
  curSome : t.cur ≠ .none
  curSnap : t.cur = .snap → t.eq = false ∧ At id S K t.snap.pos ∧ BSplit Prod.fst W K t.ws.pos
  curWs : t.cur = .ws → At Prod.fst W K t.ws.pos ∧
    (t.eq = true → At id S K t.snap.pos) ∧ (t.eq = false → BSplit id S K t.snap.pos)

theorem BwdState.mid (h : BwdState S W t K) : MidBwd S W t K := by
  refine ⟨h.sxs, h.wxs, h.dir, h.curSome, fun hc => ?_, fun hc => ?_⟩
  · obtain ⟨h1, h2⟩ := h.curSnap hc
    exact ⟨h2, h.ssplit.at h1, h.wsplit.lower (Nat.le_succ K) (h.wsBehind hc)⟩
  · obtain ⟨⟨v, h1⟩, h2⟩ := h.curWs hc
    refine ⟨h.wsplit.at h1, fun he => h.ssplit.at (h2.mp he),
      fun he => h.ssplit.lower (Nat.le_succ K) fun a ha => ?_⟩
    refine Nat.lt_of_le_of_ne (Nat.le_of_lt_succ (h.ssplit.lt_bound ha)) fun haK => ?_
    subst haK
    exact Bool.noConfusion ((h2.mpr ha).symm.trans he)

theorem stepBwd_spec (hS : SortedBy id S) (hW : SortedBy Prod.fst W) (h : MidBwd S W t K) :
    ∃ o, BwdAt S W t.stepBwd o ∧ GreatestLT S W K o := by
  obtain ⟨snap, ⟨wxs, wpos⟩, eq, cur, dir⟩ := t
  obtain ⟨hsx, rfl, hdir, hcn, hcs, hcw⟩ := h
  cases cur with
  | none => exact absurd rfl hcn
  | snap =>
    obtain ⟨rfl, hat, hwf⟩ := hcs rfl
    exact posMax_fuel ⟨hS, hW, (Cur.prev_xs _).trans hsx, rfl, hdir, hat.prev hS, hwf⟩
  | ws =>
    obtain ⟨hat, he1, he2⟩ := hcw rfl
    cases eq with
    | true =>
      exact posMax_fuel ⟨hS, hW, (Cur.prev_xs _).trans hsx, Cur.prev_xs _, hdir, (he1 rfl).prev hS, hat.prev hW⟩
    | false => exact posMax_fuel ⟨hS, hW, hsx, Cur.prev_xs _, hdir, he2 rfl, hat.prev hW⟩

theorem turnBwd_of_snap (hc : t.cur = .snap) (hv : t.snap.valid = true) :
    t.turnBwd = TI.eqCheck { t with dir := .bwd, eq := false, ws := t.ws.turnB } := by
  simp [turnBwd_eq, hc, hv, Cur.turnB]

theorem turnBwd_of_ws (hc : t.cur = .ws) (hv : t.ws.valid = true) :
    t.turnBwd = TI.eqCheck { t with dir := .bwd, eq := false, snap := t.snap.turnB } := by
  simp [turnBwd_eq, hc, hv, Cur.turnB]

theorem turnBwd_spec (hS : SortedBy id S) (hW : SortedBy Prod.fst W) (h : FwdState S W t K) :
    MidBwd S W t.turnBwd K := by
  cases hc : t.cur with
  | none => exact absurd hc h.curSome
  | snap =>
    obtain ⟨h1, h2⟩ := h.curSnap hc
    have hwf : BSplit Prod.fst W K t.ws.turnB.pos := h.wsplit.turnB hW h.wxs
    rw [turnBwd_of_snap hc (Cur.valid_of_cur? h1), eqCheck_noop]
    · exact ⟨h.sxs, (Cur.turnB_xs _).trans h.wxs, rfl, fun hn => by simp [hc] at hn,
        fun _ => ⟨rfl, h.ssplit.at h1, hwf⟩, fun hw => by simp [hc] at hw⟩
    · intro a b ha hb
      rw [h1] at ha; cases ha
      exact (Nat.ne_of_lt (hwf.lt_bound hb)).symm
  | ws =>
    obtain ⟨⟨v, h1⟩, _⟩ := h.curWs hc
    have hsf : BSplit id S K t.snap.turnB.pos := h.ssplit.turnB hS h.sxs
    rw [turnBwd_of_ws hc (Cur.valid_of_cur? h1), eqCheck_noop]
    · exact ⟨(Cur.turnB_xs _).trans h.sxs, h.wxs, rfl, fun hn => by simp [hc] at hn,
        fun hs => by simp [hc] at hs, fun _ => ⟨h.wsplit.at h1, nofun, fun _ => hsf⟩⟩
    · intro a b ha hb
      rw [h1] at hb; cases hb
      exact Nat.ne_of_lt (hsf.lt_bound ha)

theorem prev_spec (hS : SortedBy id S) (hW : SortedBy Prod.fst W) (h : FwdState S W t K ∨ BwdState S W t K) :
    ∃ o, BwdAt S W t.prev o ∧ GreatestLT S W K o := by
  rcases h with h | h
  · have : t.prev = t.turnBwd.stepBwd := by simp [TI.prev, h.dir]
    exact this ▸ stepBwd_spec hS hW (turnBwd_spec hS hW h)
  · have : t.prev = t.stepBwd := by simp [TI.prev, h.dir]
    exact this ▸ stepBwd_spec hS hW h.mid
