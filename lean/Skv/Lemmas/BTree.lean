import Skv.Model.BtScan
/-!
A node `c, (sep, c'), rest` is read as the binary search node with `c` left of `sep` and the node `c', rest`
right of it (`BT.node_induct`): each fact is one induction over `BT`, and what is said of a child list
`Kids.cons sep c rest` is read off the node `c, rest` (`Kids.wf_cons`).
-/

theorem lookup_append (l1 l2 : List (Nat × Nat)) (k : Nat) :
    lookup (l1 ++ l2) k = (lookup l1 k).or (lookup l2 k) := by
  simp only [lookup, List.find?_append, Option.map_or]

theorem lookup_eq_none {l : List (Nat × Nat)} {k : Nat} (h : ∀ e ∈ l, e.1 ≠ k) : lookup l k = none := by
  rw [lookup, List.find?_eq_none.2 fun e he => by simpa using h e he, Option.map_none]

theorem lookup_append_left {l1 l2 : List (Nat × Nat)} {k : Nat} (h : ∀ e ∈ l2, k < e.1) :
    lookup (l1 ++ l2) k = lookup l1 k := by
  rw [lookup_append, lookup_eq_none fun e he => Nat.ne_of_gt (h e he), Option.or_none]

theorem lookup_append_right {l1 l2 : List (Nat × Nat)} {k : Nat} (h : ∀ e ∈ l1, e.1 < k) :
    lookup (l1 ++ l2) k = lookup l2 k := by
  rw [lookup_append, lookup_eq_none fun e he => Nat.ne_of_lt (h e he), Option.none_or]

theorem mem_listInsert {l : List (Nat × Nat)} {k v : Nat} {e : Nat × Nat} :
    e ∈ listInsert l k v → e.1 = k ∨ e ∈ l := by
  fun_induction listInsert l k v <;> grind

theorem listInsert_sorted {l : List (Nat × Nat)} (h : l.Pairwise (fun a b => a.1 < b.1)) (k v : Nat) :
    (listInsert l k v).Pairwise (fun a b => a.1 < b.1) := by
  fun_induction listInsert l k v with
  | case1 => simp
  | case2 => exact List.pairwise_cons.2 (List.pairwise_cons.1 h)
  | case3 _ _ _ _ _ _ hlt =>
    exact List.pairwise_cons.2 ⟨fun a ha => (List.mem_cons.1 ha).elim (· ▸ hlt)
      fun h1 => Nat.lt_trans hlt ((List.pairwise_cons.1 h).1 a h1), h⟩
  | case4 _ _ _ _ _ _ _ ih =>
    have ⟨h1, h2⟩ := List.pairwise_cons.1 h
    refine List.pairwise_cons.2 ⟨fun a ha => ?_, ih h2⟩
    rcases mem_listInsert ha with h3 | h3
    · rw [h3]; omega
    · exact h1 a h3

theorem listInsert_append_left {l1 l2 : List (Nat × Nat)} {k v : Nat} (h : ∀ e ∈ l2, k < e.1) :
    listInsert (l1 ++ l2) k v = listInsert l1 k v ++ l2 := by
  fun_induction listInsert l1 k v with
  | case1 =>
    cases l2 with
    | nil => rfl
    | cons y ys =>
      have := h y List.mem_cons_self
      simp only [List.nil_append, listInsert, if_neg (Nat.ne_of_lt this), if_pos this, List.cons_append]
  | case2 => simp only [List.cons_append, listInsert, if_true]
  | case3 _ _ _ _ _ hne hlt => simp only [List.cons_append, listInsert, if_neg hne, if_pos hlt]
  | case4 _ _ _ _ _ hne hnlt ih => simp only [List.cons_append, listInsert, if_neg hne, if_neg hnlt, ih h]

theorem listInsert_append_right {l1 l2 : List (Nat × Nat)} {k v : Nat} (h : ∀ e ∈ l1, e.1 < k) :
    listInsert (l1 ++ l2) k v = l1 ++ listInsert l2 k v := by
  induction l1 with
  | nil => rfl
  | cons x xs ih =>
    have hx := h x List.mem_cons_self
    simp only [List.cons_append, listInsert, if_neg (Nat.ne_of_gt hx), if_neg (Nat.lt_asymm hx),
      ih fun e he => h e (List.mem_cons_of_mem _ he)]

theorem listDelete_eq_self {l : List (Nat × Nat)} {k : Nat} (h : ∀ e ∈ l, e.1 ≠ k) : listDelete l k = l :=
  List.filter_eq_self.2 fun e he => by simpa using h e he

theorem listDelete_append_left {l1 l2 : List (Nat × Nat)} {k : Nat} (h : ∀ e ∈ l2, k < e.1) :
    listDelete (l1 ++ l2) k = listDelete l1 k ++ l2 := by
  rw [listDelete, List.filter_append, ← listDelete, ← listDelete,
    listDelete_eq_self fun e he => Nat.ne_of_gt (h e he)]

theorem listDelete_append_right {l1 l2 : List (Nat × Nat)} {k : Nat} (h : ∀ e ∈ l1, e.1 < k) :
    listDelete (l1 ++ l2) k = l1 ++ listDelete l2 k := by
  rw [listDelete, List.filter_append, ← listDelete, ← listDelete,
    listDelete_eq_self fun e he => Nat.ne_of_lt (h e he)]

theorem inB.below {lo hi : Option Nat} {k s : Nat} (h : inB lo hi k) (hk : k < s) : inB lo (some s) k :=
  ⟨h.1, fun _ hh => by cases hh; exact hk⟩

theorem inB.above {lo hi : Option Nat} {k s : Nat} (h : inB lo hi k) (hk : ¬ k < s) : inB (some s) hi k :=
  ⟨fun _ hh => by cases hh; exact Nat.le_of_not_lt hk, h.2⟩

theorem mergeLeaves_wf {l r : List (Nat × Nat)} {lo hi : Option Nat} {s : Nat}
    (hl : (BT.leaf l).wf lo (some s)) (hr : (BT.leaf r).wf (some s) hi) (hs : inBs lo hi s) :
    (BT.leaf (mergeLeaves l r)).wf lo hi := by
  obtain ⟨sl, bl⟩ := hl
  obtain ⟨sr, br⟩ := hr
  refine ⟨List.pairwise_append.2 ⟨sl, sr, fun a ha b hb =>
    Nat.lt_of_lt_of_le ((bl a ha).2 s rfl) ((br b hb).1 s rfl)⟩, fun e he => ?_⟩
  exact (List.mem_append.1 he).elim
    (fun he => ⟨(bl e he).1, fun h hh => Nat.lt_trans ((bl e he).2 s rfl) (hs.2 h hh)⟩)
    fun he => ⟨fun l hl => Nat.le_of_lt (Nat.lt_of_lt_of_le (hs.1 l hl) ((br e he).1 s rfl)), (br e he).2⟩

/-- both a leaf split and a redistribution between sibling leaves are this cut of a sorted list -/
theorem redist_wf {l' r' : List (Nat × Nat)} {lo hi : Option Nat} {f : Nat × Nat}
    (hsorted : (l' ++ r').Pairwise (fun a b => a.1 < b.1)) (hb : ∀ e ∈ l' ++ r', inB lo hi e.1)
    (hf : r'.head? = some f) (hne : l' ≠ []) :
    (BT.leaf l').wf lo (some f.1) ∧ (BT.leaf r').wf (some f.1) hi ∧ inBs lo hi f.1 := by
  obtain ⟨h1, h2, h3⟩ := List.pairwise_append.1 hsorted
  have hfm : f ∈ r' := List.mem_of_head? hf
  have hbl := fun e he => hb e (List.mem_append_left _ he)
  have hbr := fun e he => hb e (List.mem_append_right _ he)
  have hmin : ∀ e ∈ r', ¬ e.1 < f.1 := by
    cases r' with
    | nil => cases hf
    | cons x xs =>
      cases hf
      intro e he
      rcases List.mem_cons.1 he with rfl | h
      · exact Nat.lt_irrefl _
      · exact Nat.lt_asymm ((List.pairwise_cons.1 h2).1 e h)
  obtain ⟨e0, he0⟩ := List.exists_mem_of_ne_nil _ hne
  exact ⟨⟨h1, fun e he => (hbl e he).below (h3 e he f hfm)⟩, ⟨h2, fun e he => (hbr e he).above (hmin e he)⟩,
    fun l hl => Nat.lt_of_le_of_lt ((hbl e0 he0).1 l hl) (h3 e0 he0 f hfm), (hbr f hfm).2⟩

theorem BT.node_induct {P : BT → Prop} (leaf : ∀ es, P (.leaf es)) (one : ∀ c, P c → P (.node c .nil))
    (cons : ∀ c sep c' rest, P c → P (.node c' rest) → P (.node c (.cons sep c' rest))) (t : BT) : P t :=
  BT.rec (motive_1 := P) (motive_2 := fun r => ∀ c, P c → P (.node c r)) leaf
    (fun c _ ihc ihr => ihr c ihc) one (fun sep c' rest ihc' ihr c hc => cons c sep c' rest hc (ihr c' ihc')) t

/-- the last conjunct of `Kids.wf` (separators increase) follows from the bounds of `rest` -/
theorem Kids.wf_cons {sep : Nat} {c : BT} {rest : Kids} {lo hi : Option Nat} :
    (Kids.cons sep c rest).wf lo hi ↔ inBs lo hi sep ∧ (BT.node c rest).wf (some sep) hi := by
  simp only [Kids.wf, BT.wf]
  exact ⟨fun ⟨h1, h2, h3, _⟩ => ⟨h1, h2, h3⟩,
    fun ⟨h1, h2, h3⟩ => ⟨h1, h2, h3, fun _ hs => by
      cases rest with
      | nil => cases hs
      | cons => cases hs; exact h3.1.1 sep rfl⟩⟩

theorem BT.wf_node_nil {c : BT} {lo hi : Option Nat} : (BT.node c .nil).wf lo hi ↔ c.wf lo hi := by
  simp [BT.wf, Kids.wf, Kids.firstSepOr]

theorem BT.wf_node_cons {c c' : BT} {sep : Nat} {rest : Kids} {lo hi : Option Nat} :
    (BT.node c (.cons sep c' rest)).wf lo hi ↔
      c.wf lo (some sep) ∧ inBs lo hi sep ∧ (BT.node c' rest).wf (some sep) hi := by
  rw [BT.wf, Kids.wf_cons, Kids.firstSepOr]

theorem Kids.toList_cons (sep : Nat) (c : BT) (rest : Kids) :
    (Kids.cons sep c rest).toList = (BT.node c rest).toList := by
  rw [Kids.toList, BT.toList]

theorem BT.toList_node_nil (c : BT) : (BT.node c .nil).toList = c.toList := by
  rw [BT.toList, Kids.toList, List.append_nil]

theorem BT.toList_node_cons (c c' : BT) (sep : Nat) (rest : Kids) :
    (BT.node c (.cons sep c' rest)).toList = c.toList ++ (BT.node c' rest).toList := by
  rw [BT.toList, Kids.toList_cons]

/-- the entries of a well-formed tree, taken as one leaf: in key order and within the bounds -/
theorem BT.wf_toList {t : BT} {lo hi : Option Nat} (h : t.wf lo hi) : (BT.leaf t.toList).wf lo hi := by
  induction t using BT.node_induct generalizing lo hi with
  | leaf es => exact h
  | one c ih => rw [BT.toList_node_nil]; exact ih (BT.wf_node_nil.1 h)
  | cons c sep c' rest ihl ihr =>
    obtain ⟨hl, hs, hr⟩ := BT.wf_node_cons.1 h
    rw [BT.toList_node_cons]
    exact mergeLeaves_wf (ihl hl) (ihr hr) hs

theorem BT.lt_of_wf_lo {t : BT} {s k : Nat} {hi : Option Nat} (h : t.wf (some s) hi) (hk : k < s) :
    ∀ e ∈ t.toList, k < e.1 := fun e he => Nat.lt_of_lt_of_le hk (((BT.wf_toList h).2 e he).1 s rfl)

theorem BT.lt_of_wf_hi {t : BT} {s k : Nat} {lo : Option Nat} (h : t.wf lo (some s)) (hk : ¬ k < s) :
    ∀ e ∈ t.toList, e.1 < k :=
  fun e he => Nat.lt_of_lt_of_le (((BT.wf_toList h).2 e he).2 s rfl) (Nat.le_of_not_lt hk)

theorem Kids.route_cons (sep : Nat) (c : BT) (rest : Kids) (k : Nat) :
    (Kids.cons sep c rest).route k = if k < sep then none else some ((BT.node c rest).get k) := by
  simp only [Kids.route, BT.get]
  split
  · rfl
  · cases rest.route k <;> rfl

theorem BT.get_node_cons (c c' : BT) (sep : Nat) (rest : Kids) (k : Nat) :
    (BT.node c (.cons sep c' rest)).get k = if k < sep then c.get k else (BT.node c' rest).get k := by
  rw [BT.get, Kids.route_cons]
  by_cases h : k < sep <;> simp only [h, if_true, if_false]

theorem BT.get_eq {t : BT} {lo hi : Option Nat} (h : t.wf lo hi) (k : Nat) : t.get k = lookup t.toList k := by
  induction t using BT.node_induct generalizing lo hi with
  | leaf es => rfl
  | one c ih => rw [BT.toList_node_nil]; exact ih (BT.wf_node_nil.1 h)
  | cons c sep c' rest ihl ihr =>
    obtain ⟨hl, -, hr⟩ := BT.wf_node_cons.1 h
    rw [BT.get_node_cons, BT.toList_node_cons]
    split
    · next hk => rw [ihl hl, lookup_append_left (BT.lt_of_wf_lo hr hk)]
    · next hk => rw [ihr hr, lookup_append_right (BT.lt_of_wf_hi hl hk)]

theorem Kids.route_eq : ∀ (r : Kids) (lo hi : Option Nat), r.wf lo hi → ∀ k,
    match r.route k with
    | none => ∀ e ∈ r.toList, k < e.1
    | some v => v = lookup r.toList k ∧ ∃ sep, r.firstSepOr hi = some sep ∧ sep ≤ k := by
  intro r lo hi h k
  cases r with
  | nil => exact nofun
  | cons sep c rest =>
    have hn := (Kids.wf_cons.1 h).2
    rw [Kids.route_cons]
    by_cases hk : k < sep <;> simp only [hk, if_true, if_false]
    · exact BT.lt_of_wf_lo hn hk
    · exact ⟨BT.get_eq hn k, sep, rfl, Nat.le_of_not_lt hk⟩

theorem Kids.del_cons_ge {sep k : Nat} (c : BT) (rest : Kids) (h : ¬ k < sep) :
    ∃ c' rest', (BT.node c rest).del k = .node c' rest' ∧
      (Kids.cons sep c rest).del k = some (.cons sep c' rest') := by
  simp only [BT.del, Kids.del, if_neg h]
  cases rest.del k <;> exact ⟨_, _, rfl, rfl⟩

theorem BT.del_spec {t : BT} {lo hi : Option Nat} (h : t.wf lo hi) (k : Nat) :
    (t.del k).toList = listDelete t.toList k ∧ (t.del k).wf lo hi := by
  induction t using BT.node_induct generalizing lo hi with
  | leaf es => exact ⟨rfl, h.1.filter _, fun e he => h.2 e (List.mem_filter.1 he).1⟩
  | one c ih =>
    have ⟨a, b⟩ := ih (BT.wf_node_nil.1 h)
    exact ⟨by rw [BT.toList_node_nil, ← a]; exact BT.toList_node_nil _, BT.wf_node_nil.2 b⟩
  | cons c sep c' rest ihl ihr =>
    obtain ⟨hl, hs, hr⟩ := BT.wf_node_cons.1 h
    rw [BT.toList_node_cons]
    by_cases hk : k < sep
    · obtain ⟨tl, wl⟩ := ihl hl
      simp only [BT.del, Kids.del, if_pos hk]
      exact ⟨by rw [BT.toList_node_cons, tl, listDelete_append_left (BT.lt_of_wf_lo hr hk)],
        BT.wf_node_cons.2 ⟨wl, hs, hr⟩⟩
    · obtain ⟨c'', rest'', hn, hd⟩ := Kids.del_cons_ge c' rest hk
      obtain ⟨tr, wr⟩ := ihr hr
      rw [hn] at tr wr
      simp only [BT.del, hd]
      exact ⟨by rw [BT.toList_node_cons, tr, listDelete_append_right (BT.lt_of_wf_hi hl hk)],
        BT.wf_node_cons.2 ⟨hl, hs, wr⟩⟩

theorem Kids.del_spec : ∀ (r : Kids) (lo hi : Option Nat) (k : Nat), r.wf lo hi →
    match r.del k with
    | none => ∀ e ∈ r.toList, k < e.1
    | some r' => r'.toList = listDelete r.toList k ∧ r'.wf lo hi ∧ r'.firstSepOr hi = r.firstSepOr hi ∧
        ∃ s, r.firstSepOr none = some s ∧ s ≤ k := by
  intro r lo hi k h
  cases r with
  | nil => exact nofun
  | cons sep c rest =>
    obtain ⟨hs, hn⟩ := Kids.wf_cons.1 h
    by_cases hk : k < sep
    · rw [Kids.del, if_pos hk]
      exact BT.lt_of_wf_lo hn hk
    · obtain ⟨c', rest', hd, hd'⟩ := Kids.del_cons_ge c rest hk
      obtain ⟨tn, wn⟩ := BT.del_spec hn k
      rw [hd] at tn wn
      rw [hd']
      exact ⟨tn, Kids.wf_cons.2 ⟨hs, wn⟩, rfl, sep, rfl, Nat.le_of_not_lt hk⟩

theorem Kids.toList_sorted : ∀ (r : Kids) (lo hi : Option Nat), r.wf lo hi →
    r.toList.Pairwise (fun a b => a.1 < b.1)
  | .nil, _, _, _ => .nil
  | .cons _ _ _, _, _, h => (BT.wf_toList (Kids.wf_cons.1 h).2).1

theorem BT.leaves_flatten (t : BT) : t.leaves.flatten = t.toList := by
  induction t using BT.node_induct with
  | leaf es => exact List.append_nil es
  | one c ih => rw [BT.toList_node_nil, ← ih]; exact congrArg List.flatten (List.append_nil _)
  | cons c sep c' rest ihl ihr => rw [BT.toList_node_cons, ← ihl, ← ihr]; exact List.flatten_append

theorem Kids.leaves_flatten : ∀ r : Kids, r.leaves.flatten = r.toList
  | .nil => rfl
  | .cons _ c rest => BT.leaves_flatten (.node c rest)

theorem walk_skip (st : Bool) (ls : List (List (Nat × Nat))) : walk true st ls = ls.flatten := by
  induction ls generalizing st with
  | nil => rfl
  | cons l rest ih =>
    simp only [walk]
    split
    · rename_i he
      have : l = [] := by simpa using he
      subst this
      simp [ih]
    · simp [ih]
