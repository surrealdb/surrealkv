import Skv.Lemmas.Wal
/-!
Reading a prefix of what the writer produced (a log cut by a crash at any byte): the reader returns
a prefix of the records written, never another record and never a later one (C12).
Everything here holds for any reader fuel: running out of fuel ends the output, it never adds to it.
The cut stream is `take n` of the whole one; each layer hands `n` minus its own length to the next.
-/

/-- What the reader makes of one layer of a cut stream: it returns nothing (the cut, or the end of its
fuel, falls into this layer), or it goes on as `F rf'` with some fuel `rf'`. -/
def StopsOr (x : List Bytes × Ending) (F : Nat → List Bytes × Ending) : Prop :=
  x.1 = [] ∨ ∃ rf', x = F rf'

theorem StopsOr.bind {x F G} (h : StopsOr x F) (hF : ∀ rf, StopsOr (F rf) G) : StopsOr x G := by
  rcases h with h | ⟨rf, rfl⟩
  · exact Or.inl h
  · exact hF rf

theorem read_short {P : Params} {rf : Nat} {s acc : Bytes} {k idx : Nat} (hs : s.length < 7)
    (hk : s.length ≤ k) : (readGo P rf s k idx acc false).1 = [] := by
  cases rf with
  | zero => rfl
  | succ rf =>
    rw [readGo_skip (Nat.lt_of_le_of_lt (Nat.min_le_right _ _) hs), if_pos hk]
    split <;> rfl

theorem read_frag_take (P : Params) (rf : Nat) (acc : Bytes) {ty : UInt8} {d : Bytes} {k idx : Nat}
    (hk : 7 + d.length ≤ k) (hd : d.length < 65536)
    (hty : ty = tyFull ∨ ty = tyFirst ∨ ty = tyMiddle ∨ ty = tyLast)
    (hidx : (ty = tyFull ∨ ty = tyFirst) ↔ idx = 0) (Z : Bytes) (n : Nat) :
    StopsOr (readGo P rf ((phys P ty d ++ Z).take n) k idx acc false) fun rf' =>
      if ty = tyLast ∨ ty = tyFull then
        (let r := readGo P rf' (Z.take (n - (7 + d.length))) (k - (7 + d.length)) 0 [] false
         ((acc ++ d) :: r.1, r.2))
      else readGo P rf' (Z.take (n - (7 + d.length))) (k - (7 + d.length)) (idx + 1) (acc ++ d) false := by
  cases rf with
  | zero => exact Or.inl rfl
  | succ rf =>
    rcases Nat.lt_or_ge n 7 with h7 | h7
    · have hl := List.length_take_le n (phys P ty d ++ Z)
      exact Or.inl (read_short (Nat.lt_of_le_of_lt hl h7)
        (Nat.le_trans hl (Nat.le_trans (Nat.le_of_lt h7) (Nat.le_trans (Nat.le_add_right 7 _) hk))))
    · rw [phys, List.append_assoc, List.take_append, List.take_of_length_le (by rwa [hdr_length]),
        hdr_length, read_hdr hk hd hty hidx]
      rcases Nat.lt_or_ge n (7 + d.length) with hn | hn
      · -- the cut falls into the data: fewer bytes than the header announces
        left
        rw [if_pos (Nat.lt_of_le_of_lt (List.length_take_le _ _) (Nat.sub_lt_left_of_lt_add h7 hn))]
      · right
        have h1 : ((d ++ Z).take (n - 7)).take d.length = d := by
          rw [List.take_take, Nat.min_eq_left (Nat.le_sub_of_add_le' hn), List.take_left' rfl]
        have h2 : ((d ++ Z).take (n - 7)).drop d.length = Z.take (n - (7 + d.length)) := by
          rw [List.drop_take, List.drop_left' rfl, Nat.sub_sub]
        have hl := List.length_take_le' d.length ((d ++ Z).take (n - 7))
        rw [h1] at hl
        exact ⟨rf, by rw [if_neg (Nat.not_lt.mpr hl), h1, h2, bne_self_eq_false, if_neg Bool.false_ne_true]⟩

theorem read_pad_take (P : Params) (rf off idx : Nat) (acc F : Bytes) (n : Nat) :
    StopsOr (readGo P rf ((List.replicate (padLen P off) (0 : UInt8) ++ F).take n) (P.B - off) idx acc false)
      fun rf' => readGo P rf' (F.take (n - padLen P off)) (P.B - normOff P off) idx acc false := by
  by_cases hp : P.B - off < 7
  · have h1 : padLen P off = P.B - off := if_pos hp
    have h2 : normOff P off = 0 := if_pos hp
    cases rf with
    | zero => exact Or.inl rfl
    | succ rf =>
      -- the reader's own test says whether anything of `F` survives the cut
      rw [readGo_skip (Nat.lt_of_le_of_lt (Nat.min_le_left _ _) hp), h1, h2]
      by_cases hl : ((List.replicate (P.B - off) (0 : UInt8) ++ F).take n).length ≤ P.B - off
      · exact Or.inl (by rw [if_pos hl]; split <;> rfl)
      · exact Or.inr ⟨rf, by
          rw [if_neg hl, List.drop_take, List.drop_left' List.length_replicate, Nat.sub_zero]⟩
  · exact Or.inr ⟨rf, by simp [padLen, normOff, hp]⟩

theorem read_pad_frag_take (P : Params) (rf : Nat) (acc : Bytes) {off idx : Nat} {ty : UInt8} {c : Bytes}
    (hc : normOff P off + 7 + c.length ≤ P.B) (hc16 : c.length < 65536)
    (hty : ty = tyFull ∨ ty = tyFirst ∨ ty = tyMiddle ∨ ty = tyLast)
    (hidx : (ty = tyFull ∨ ty = tyFirst) ↔ idx = 0) (Z : Bytes) (n : Nat) :
    StopsOr (readGo P rf ((List.replicate (padLen P off) (0 : UInt8) ++ phys P ty c ++ Z).take n)
        (P.B - off) idx acc false) fun rf' =>
      if ty = tyLast ∨ ty = tyFull then
        (let r := readGo P rf' (Z.take (n - (padLen P off + 7 + c.length)))
            (P.B - (normOff P off + 7 + c.length)) 0 [] false
         ((acc ++ c) :: r.1, r.2))
      else readGo P rf' (Z.take (n - (padLen P off + 7 + c.length)))
        (P.B - (normOff P off + 7 + c.length)) (idx + 1) (acc ++ c) false := by
  have h := (read_pad_take P rf off idx acc (phys P ty c ++ Z) n).bind fun rf1 =>
    read_frag_take P rf1 acc (frag_le_of_fits hc) hc16 hty hidx Z _
  rw [List.append_assoc]
  simpa only [Nat.sub_sub, ← Nat.add_assoc] using h

theorem Frags.read_take {P off begin d W off' c} (h : Frags P off begin d W off' c) :
    ∀ (acc Z : Bytes) (idx rf n : Nat), (begin = true ↔ idx = 0) →
    StopsOr (readGo P rf ((W ++ Z).take n) (P.B - off) idx acc false) fun rf' =>
      (let r := readGo P rf' (Z.take (n - W.length)) (P.B - off') 0 [] false; ((acc ++ d) :: r.1, r.2)) := by
  induction h with
  | last _ hfit =>
    intro acc Z idx rf n hbi
    refine (read_pad_frag_take P rf acc hfit (chunk_lt_of_fits hfit) fragTy_cases
      (fragTy_begin.trans hbi) Z n).bind fun rf1 => Or.inr ⟨rf1, ?_⟩
    dsimp only
    rw [if_pos (fragTy_end.mpr rfl), List.length_append, List.length_replicate, phys_length,
      ← Nat.add_assoc]
  | @more _ _ _ _ W _ _ _ hfit _ ih =>
    intro acc Z idx rf n hbi
    rw [List.append_assoc]
    refine (read_pad_frag_take P rf acc hfit (chunk_lt_of_fits hfit) fragTy_cases
      (fragTy_begin.trans hbi) _ n).bind fun rf1 => ?_
    dsimp only
    rw [if_neg fun h => Bool.false_ne_true (fragTy_end.mp h), List.length_append, List.length_append,
      List.length_replicate, phys_length, ← Nat.add_assoc, ← Nat.sub_sub n _ W.length,
      ← List.append_assoc]
    exact ih _ Z (idx + 1) rf1 _ (by simp)

theorem read_stream_take (P : Params) (rs : List Bytes) : ∀ (off rf n : Nat), off ≤ P.B →
    (readGo P rf ((writeAll P off rs).1.take n) (P.B - off) 0 [] false).1 <+: rs := by
  induction rs with
  | nil =>
    intro off rf n _
    rw [writeAll, List.take_nil, read_short (s := []) (Nat.zero_lt_succ 6) (Nat.zero_le _)]
    exact List.nil_prefix
  | cons r rs ih =>
    intro off rf n hoff
    have hr := addRecord_frags hoff r
    rw [writeAll]
    rcases hr.read_take [] _ 0 rf n (by simp) with h | ⟨rf', h⟩
    · rw [h]; exact List.nil_prefix
    · rw [h]
      exact List.cons_prefix_cons.mpr ⟨rfl, ih _ rf' _ hr.off_le⟩

theorem wal_truncation_prefix (P : Params) (rs : List Bytes) (n : Nat) :
    (readAll P ((writeAll P 0 rs).1.take n)).1 <+: rs :=
  read_stream_take P rs 0 _ n (Nat.zero_le _)
