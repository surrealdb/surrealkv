import Skv.Lemmas.BTree
/-! Insertion is insertion below a node (`BT.insU`) followed by the cut of that node (`BT.cut`), the only
place where the split policy enters; so it refines ordered-map insertion for every policy. -/

theorem inB_none_hi_of {lo : Option Nat} {k : Nat} (h : ∀ l, lo = some l → l ≤ k) : inB lo none k :=
  ⟨h, fun _ hh => by cases hh⟩

theorem splitLeaf_spec (p : Policy) (es : List (Nat × Nat)) (lo hi : Option Nat) :
    (splitLeaf p es).toList = es ∧ ((BT.leaf es).wf lo hi → (splitLeaf p es).wf lo hi) := by
  unfold splitLeaf
  cases p.leaf es with
  | none => exact ⟨rfl, id⟩
  | some n =>
    dsimp only
    cases hd : es.drop n with
    | nil => exact ⟨rfl, id⟩
    | cons sv right =>
      dsimp only
      split
      · exact ⟨rfl, id⟩
      · next hn =>
        have hes : es.take n ++ sv :: right = es := hd ▸ List.take_append_drop n es
        refine ⟨hes, fun ⟨hs, hb⟩ => ?_⟩
        -- the left part is not empty, so the separator is strictly above the lower bound
        have hne : es.take n ≠ [] := fun h0 =>
          (List.take_eq_nil_iff.1 h0).elim hn fun h => by rw [h, List.drop_nil] at hd; cases hd
        have ⟨a, b, c⟩ := redist_wf (l' := es.take n) (r' := sv :: right) (hes.symm ▸ hs) (hes.symm ▸ hb) rfl hne
        exact ⟨c, a, b⟩

theorem node_cut {s n : Nat} {c' : BT} {rest right : Kids} {hi : Option Nat} (hd : rest.drop n = .cons s c' right)
    (c : BT) {lo : Option Nat} :
    (BT.node c (rest.take n)).toList ++ (BT.node c' right).toList = (BT.node c rest).toList ∧
    ((BT.node c rest).wf lo hi → (Ins.two (.node c (rest.take n)) s (.node c' right)).wf lo hi) := by
  induction n generalizing c rest lo with
  | zero =>
    cases rest with
    | nil => cases hd
    | cons =>
      cases hd
      exact ⟨by rw [Kids.take, BT.toList_node_nil, BT.toList_node_cons], fun h =>
        have ⟨hl, hs, hr⟩ := BT.wf_node_cons.1 h; ⟨hs, BT.wf_node_nil.2 hl, hr⟩⟩
  | succ n ih =>
    cases rest with
    | nil => cases hd
    | cons s0 c0 rest0 =>
      obtain ⟨ht, hw⟩ := ih hd c0 (lo := some s0)
      refine ⟨by rw [Kids.take, BT.toList_node_cons, BT.toList_node_cons, List.append_assoc, ht], fun h => ?_⟩
      obtain ⟨hl, hs0, hr⟩ := BT.wf_node_cons.1 h
      obtain ⟨hs, hl', hr'⟩ := hw hr
      have hlt : s0 < s := hs.1 s0 rfl
      have hs' : inBs lo hi s := ⟨fun l hl => Nat.lt_trans (hs0.1 l hl) hlt, hs.2⟩
      have hs0' : inBs lo (some s) s0 := ⟨hs0.1, fun _ hh => by cases hh; exact hlt⟩
      exact ⟨hs', BT.wf_node_cons.2 ⟨hl, hs0', hl'⟩, hr'⟩

theorem splitNode_spec (p : Policy) (c : BT) (rest : Kids) (lo hi : Option Nat) :
    (splitNode p c rest).toList = (BT.node c rest).toList ∧
      ((BT.node c rest).wf lo hi → (splitNode p c rest).wf lo hi) := by
  unfold splitNode
  cases p.node rest.length with
  | none => exact ⟨rfl, id⟩
  | some n =>
    dsimp only
    cases hd : rest.drop n with
    | nil => exact ⟨rfl, id⟩
    | cons s c' right => exact node_cut hd c

/-- `handle_splits`: a split child hands its separator and its right half to the parent -/
def Ins.attach : Ins → Kids → BT
  | .one c, rest => .node c rest
  | .two l s r, rest => .node l (.cons s r rest)

theorem Ins.attach_toList (i : Ins) (rest : Kids) : (i.attach rest).toList = i.toList ++ rest.toList := by
  cases i <;> simp [Ins.attach, Ins.toList, BT.toList, Kids.toList]

theorem Ins.attach_wf {i : Ins} {rest : Kids} {lo hi : Option Nat} (hw : i.wf lo (rest.firstSepOr hi))
    (hr : rest.wf lo hi) : (i.attach rest).wf lo hi := by
  cases i with
  | one c => exact ⟨hw, hr⟩
  | two l s r =>
    obtain ⟨hs, hl, hr'⟩ := hw
    refine BT.wf_node_cons.2 ⟨hl, ?_⟩
    cases rest with
    | nil => exact ⟨hs, hr', trivial⟩
    | cons s1 c1 r1 =>
      obtain ⟨hs1, hn⟩ := Kids.wf_cons.1 hr
      have hlt : s < s1 := hs.2 s1 rfl
      have hs' : inBs lo hi s := ⟨hs.1, fun h hh => Nat.lt_trans hlt (hs1.2 h hh)⟩
      have hs1' : inBs (some s) hi s1 := ⟨fun _ h => by cases h; exact hlt, hs1.2⟩
      exact ⟨hs', hr', Kids.wf_cons.2 ⟨hs1', hn⟩⟩

/-- `insert` on the way down: `t` after the insertion below it, before `t` itself is cut -/
def BT.insU (p : Policy) : BT → Nat → Nat → BT
  | .leaf es, k, v => .leaf (listInsert es k v)
  | .node c rest, k, v =>
    match rest.ins p k v with
    | some rest' => .node c rest'
    | none => (c.ins p k v).attach rest

/-- `split_leaf`, `split_internal_with_child` on the way back up -/
def BT.cut (p : Policy) : BT → Ins
  | .leaf es => splitLeaf p es
  | .node c rest => splitNode p c rest

theorem BT.ins_eq (p : Policy) (t : BT) (k v : Nat) : t.ins p k v = (t.insU p k v).cut p := by
  cases t with
  | leaf es => rfl
  | node c rest =>
    simp only [BT.ins, BT.insU]
    cases rest.ins p k v with
    | some _ => rfl
    | none => cases c.ins p k v <;> rfl

theorem BT.cut_spec (p : Policy) (t : BT) (lo hi : Option Nat) :
    (t.cut p).toList = t.toList ∧ (t.wf lo hi → (t.cut p).wf lo hi) := by
  cases t with
  | leaf es => exact splitLeaf_spec p es lo hi
  | node c rest => exact splitNode_spec p c rest lo hi

theorem BT.ins_of_insU {p : Policy} {t : BT} {lo hi : Option Nat} {k v : Nat} {l : List (Nat × Nat)}
    (h : (t.insU p k v).toList = l ∧ (t.insU p k v).wf lo hi) :
    (t.ins p k v).toList = l ∧ (t.ins p k v).wf lo hi := by
  have ⟨a, b⟩ := BT.cut_spec p (t.insU p k v) lo hi
  rw [BT.ins_eq]; exact ⟨a.trans h.1, b h.2⟩

theorem Kids.ins_cons_ge (p : Policy) {sep k : Nat} (c : BT) (rest : Kids) (v : Nat) (h : ¬ k < sep) :
    ∃ c' rest', (BT.node c rest).insU p k v = .node c' rest' ∧
      (Kids.cons sep c rest).ins p k v = some (.cons sep c' rest') := by
  simp only [BT.insU, Kids.ins, if_neg h]
  cases rest.ins p k v with
  | some _ => exact ⟨_, _, rfl, rfl⟩
  | none => cases c.ins p k v <;> exact ⟨_, _, rfl, rfl⟩

theorem BT.insU_spec (p : Policy) {t : BT} {lo hi : Option Nat} {k : Nat} (h : t.wf lo hi) (hk : inB lo hi k)
    (v : Nat) : (t.insU p k v).toList = listInsert t.toList k v ∧ (t.insU p k v).wf lo hi := by
  induction t using BT.node_induct generalizing lo hi with
  | leaf es =>
    exact ⟨rfl, listInsert_sorted h.1 k v, fun e he => (mem_listInsert he).elim (fun h1 => h1 ▸ hk) (h.2 e)⟩
  | one c ih =>
    have ⟨a, b⟩ := BT.ins_of_insU (ih (BT.wf_node_nil.1 h) hk)
    simp only [BT.insU, Kids.ins]
    exact ⟨by rw [Ins.attach_toList, a, BT.toList_node_nil]; exact List.append_nil _, Ins.attach_wf b trivial⟩
  | cons c sep c' rest ihl ihr =>
    obtain ⟨hl, hs, hr⟩ := BT.wf_node_cons.1 h
    rw [BT.toList_node_cons]
    by_cases hks : k < sep
    · have ⟨a, b⟩ := BT.ins_of_insU (ihl hl (hk.below hks))
      simp only [BT.insU, Kids.ins, if_pos hks]
      exact ⟨by rw [Ins.attach_toList, a, Kids.toList_cons, listInsert_append_left (BT.lt_of_wf_lo hr hks)],
        Ins.attach_wf (rest := .cons sep c' rest) b (Kids.wf_cons.2 ⟨hs, hr⟩)⟩
    · obtain ⟨c'', rest'', hn, hd⟩ := Kids.ins_cons_ge p c' rest v hks
      have ⟨a, b⟩ := ihr hr (hk.above hks)
      rw [hn] at a b
      simp only [BT.insU, hd]
      exact ⟨by rw [BT.toList_node_cons, a, listInsert_append_right (BT.lt_of_wf_hi hl hks)],
        BT.wf_node_cons.2 ⟨hl, hs, b⟩⟩

theorem BT.ins_spec (p : Policy) {t : BT} {lo hi : Option Nat} {k : Nat} (h : t.wf lo hi) (hk : inB lo hi k)
    (v : Nat) : (t.ins p k v).toList = listInsert t.toList k v ∧ (t.ins p k v).wf lo hi :=
  BT.ins_of_insU (BT.insU_spec p h hk v)

theorem Kids.ins_spec (p : Policy) : ∀ (r : Kids) (lo hi : Option Nat) (k v : Nat), r.wf lo hi → inB lo hi k →
    match r.ins p k v with
    | none => (∀ e ∈ r.toList, k < e.1) ∧ (∀ s, r.firstSepOr none = some s → k < s)
    | some r' => r'.toList = listInsert r.toList k v ∧ r'.wf lo hi ∧ r'.firstSepOr hi = r.firstSepOr hi ∧
        ∃ s, r.firstSepOr none = some s ∧ s ≤ k := by
  intro r lo hi k v h hk
  cases r with
  | nil => exact ⟨nofun, nofun⟩
  | cons sep c rest =>
    obtain ⟨hs, hn⟩ := Kids.wf_cons.1 h
    by_cases hks : k < sep
    · rw [Kids.ins, if_pos hks]
      exact ⟨BT.lt_of_wf_lo hn hks, fun s hs => by cases hs; exact hks⟩
    · obtain ⟨c', rest', hu, he⟩ := Kids.ins_cons_ge p c rest v hks
      have ⟨a, b⟩ := BT.insU_spec p hn (hk.above hks) v
      rw [hu] at a b
      rw [he]
      exact ⟨a, Kids.wf_cons.2 ⟨hs, b⟩, rfl, sep, rfl, Nat.le_of_not_lt hks⟩
