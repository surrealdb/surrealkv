import Skv.Model.Guard

theorem slice_set (f : List Nat) (off len i v : Nat) :
    slice (f.set i v) off len = if i < off then slice f off len else (slice f off len).set (i - off) v := by
  unfold slice
  rw [List.drop_set]
  split
  · rfl
  · rw [List.take_set]

theorem slice_set_outside (f : List Nat) (off len i v : Nat) (h : i < off ∨ off + len ≤ i) :
    slice (f.set i v) off len = slice f off len := by
  rw [slice_set]
  split
  · rfl
  · next hi =>
    exact List.set_eq_of_length_le
      (Nat.le_trans (List.length_take_le _ _) (Nat.le_sub_of_add_le' (h.resolve_left hi)))

theorem slice_length_set (f : List Nat) (off len i v : Nat) :
    (slice (f.set i v) off len).length = (slice f off len).length := by
  simp [slice]

theorem slice_set_inside_ne {f : List Nat} {off len i v : Nat} (hi : off ≤ i ∧ i < off + len)
    (hlen : (slice f off len).length = len) (hv : f[i]? ≠ some v) :
    slice (f.set i v) off len ≠ slice f off len := by
  have hlt : i - off < len := Nat.sub_lt_left_of_lt_add hi.1 hi.2
  rw [slice_set, if_neg (Nat.not_lt.mpr hi.1)]
  intro heq
  have h1 := congrArg (·[i - off]?) heq
  have h2 : (slice f off len)[i - off]? = f[i]? := by
    rw [slice, List.getElem?_take_of_lt hlt, List.getElem?_drop, Nat.add_sub_cancel' hi.1]
  rw [h2] at h1
  exact hv (h1.symm.trans (List.getElem?_set_self (hlen.symm ▸ hlt)))

theorem regionsCover_total {rs : List Region} {start n : Nat} (h : regionsCover rs start n = true)
    {off : Nat} (h1 : start ≤ off) (h2 : off < n) :
    ∃ r, regionOf rs off = some r ∧ r.off ≤ off ∧ off < r.off + r.len := by
  induction rs generalizing start with
  | nil => simp [regionsCover] at h; omega
  | cons r rs ih =>
    simp only [regionsCover, Bool.and_eq_true, beq_iff_eq, decide_eq_true_eq] at h
    obtain ⟨⟨h3, h4⟩, h5⟩ := h
    have h1' : r.off ≤ off := h3 ▸ h1
    by_cases hin : off < r.off + r.len
    · refine ⟨r, ?_, h1', hin⟩
      simp [regionOf, h1', hin]
    · obtain ⟨r', hr', hb⟩ := ih h5 (h3 ▸ Nat.le_of_not_lt hin)
      refine ⟨r', ?_, hb⟩
      simp only [regionOf, List.find?_cons]
      have : (decide (r.off ≤ off) && decide (off < r.off + r.len)) = false := by simp [hin]
      rw [this]; exact hr'
