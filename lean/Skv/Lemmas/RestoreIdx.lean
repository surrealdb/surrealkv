import Skv.Model.RestoreIdx

/-- entry by entry, the index over the value log shows the versions of `l`, all of them visible -/
inductive Shows (vlog : List Nat) (seq : Nat) : List IEnt → List (Nat × Nat) → Prop
  | nil : Shows vlog seq [] []
  | cons {e ix v l} : vlog[e.pos]? = some v → e.seq ≤ seq → Shows vlog seq ix l →
      Shows vlog seq (e :: ix) ((e.key, v) :: l)

/-- the remembered checkpoint has an index file, which shows the remembered log -/
inductive SavedRel : Option VCk → Option (List (Nat × Nat)) → Prop
  | none : SavedRel none none
  | some {ck ix l} : ck.index = some ix → Shows ck.vlog ck.seq ix l → SavedRel (some ck) (some l)

def Rel (c : VStore) (a : ASpec) : Prop := Shows c.vlog c.seq c.index a.log ∧ SavedRel c.saved a.saved

theorem Shows.history {vlog : List Nat} {seq : Nat} {index : List IEnt} {l : List (Nat × Nat)}
    (h : Shows vlog seq index l) (k : Nat) :
    (index.filter (fun e => e.key == k && decide (e.seq ≤ seq))).map (fun e => vlog[e.pos]?) = specHist l k := by
  induction h with
  | nil => rfl
  | cons hv hs _ ih =>
    rw [specHist, List.filter_cons, List.filter_cons, decide_eq_true hs, Bool.and_true]
    split
    · rw [List.map_cons, List.map_cons, hv, ih]; rfl
    · exact ih

/-- a write appends to the value log: what resolved before resolves to the same value -/
theorem Shows.append {vlog : List Nat} {seq : Nat} {index : List IEnt} {l : List (Nat × Nat)}
    (h : Shows vlog seq index l) (v : Nat) : Shows (vlog ++ [v]) (seq + 1) index l := by
  induction h with
  | nil => exact .nil
  | cons hv hs _ ih =>
    refine .cons ?_ (Nat.le_succ_of_le hs) ih
    rw [List.getElem?_append_left (List.getElem?_eq_some_iff.mp hv).1, hv]

theorem Shows.put {vlog : List Nat} {seq : Nat} {index : List IEnt} {l : List (Nat × Nat)}
    (h : Shows vlog seq index l) (k v : Nat) :
    Shows (vlog ++ [v]) (seq + 1) (⟨k, seq + 1, vlog.length⟩ :: index) ((k, v) :: l) :=
  .cons (e := ⟨k, seq + 1, vlog.length⟩) List.getElem?_concat_length (Nat.le_refl _) (h.append v)

theorem rel_init : Rel {} {} := ⟨.nil, .none⟩

theorem rel_act {c : VStore} {a : ASpec} (h : Rel c a) (x : VAct) : Rel (c.act true x) (a.act x) := by
  obtain ⟨vlog, index, seq, saved⟩ := c
  obtain ⟨log, asaved⟩ := a
  obtain ⟨hcur, hsaved⟩ := h
  cases x with
  | put k v => exact ⟨hcur.put k v, hsaved⟩
  | checkpoint => exact ⟨hcur, .some rfl hcur⟩
  | restore =>
    cases hsaved with
    | none => exact ⟨hcur, .none⟩
    | some hix hsh =>
      simp only [VStore.act, ASpec.act, hix]
      exact ⟨hsh, .some hix hsh⟩

theorem rel_run {c : VStore} {a : ASpec} (h : Rel c a) (acts : List VAct) :
    Rel (acts.foldl (VStore.act true) c) (acts.foldl ASpec.act a) := by
  induction acts generalizing c a with
  | nil => exact h
  | cons x xs ih => exact ih (rel_act h x)
