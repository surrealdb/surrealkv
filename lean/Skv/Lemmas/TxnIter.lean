import Skv.Model.TxnIter
import Skv.Lemmas.ListAux

/-! At the top, the specification and the invariants of both directions (`FwdState`, `BwdState`, the fuel
measures), which `TxnIterFwd` and `TxnIterBwd` use. Then what a cursor does to a split of its sorted
list, stated through `cur?` so that the invariant proofs downstream do not open a zipper. Throughout,
`a < b` on `Nat` is also used as `a + 1 ≤ b`, which is the same term. -/

/-- forward split of a strictly sorted list at frontier `X` -/
def FSplit (key : α → Nat) (xs : List α) (X : Nat) : Option (List α × α × List α) → Prop
  | none => ∀ a ∈ xs, key a < X
  | some (l, x, r) => xs = l.reverse ++ x :: r ∧ (∀ a ∈ l, key a < X) ∧ X ≤ key x

/-- backward split at the exclusive bound `Y`: current is the greatest element `< Y` -/
def BSplit (key : α → Nat) (xs : List α) (Y : Nat) : Option (List α × α × List α) → Prop
  | none => ∀ a ∈ xs, Y ≤ key a
  | some (l, x, r) => xs = l.reverse ++ x :: r ∧ (∀ a ∈ r, Y ≤ key a) ∧ key x < Y

def SortedBy (key : α → Nat) (xs : List α) : Prop := xs.Pairwise (fun a b => key a < key b)

/-- key `k` is live in the overlay of write set `W` on snapshot keys `S` -/
def Live (S : List Nat) (W : List (Nat × Bool)) (k : Nat) : Prop :=
  (k ∈ S ∧ ∀ e ∈ W, e.1 ≠ k) ∨ (k, false) ∈ W

/-- `some K`: `K` is the least live key at or above `X`; `none`: no key at or above `X` is live -/
def LeastGE (S : List Nat) (W : List (Nat × Bool)) (X : Nat) : Option Nat → Prop
  | none => ∀ k, Live S W k → k < X
  | some K => Live S W K ∧ X ≤ K ∧ ∀ k, Live S W k → X ≤ k → K ≤ k

/-- the greatest live key below the exclusive bound `Y` -/
def GreatestLT (S : List Nat) (W : List (Nat × Bool)) (Y : Nat) : Option Nat → Prop
  | none => ∀ k, Live S W k → Y ≤ k
  | some K => Live S W K ∧ K < Y ∧ ∀ k, Live S W k → k < Y → k ≤ K

/-- remaining write-set entries at or after the cursor -/
def wsRemaining (c : Cur (Nat × Bool)) : Nat :=
  match c.pos with
  | none => 0
  | some (_, _, r) => r.length + 1

/-- write-set entries at or before the cursor -/
def wsBefore (c : Cur (Nat × Bool)) : Nat :=
  match c.pos with
  | none => 0
  | some (l, _, _) => l.length + 1

/-- The cursor reports live key `K` after a forward move: each source stands on its least key `≥ K`,
the one named by `cur` (`current_source`) on `K` itself, and `eq` (`is_key_equal`) tells whether both do. -/
structure FwdState (S : List Nat) (W : List (Nat × Bool)) (t : TI) (K : Nat) : Prop where
  sxs : t.snap.xs = S
  wxs : t.ws.xs = W
  dir : t.dir = .fwd
  ssplit : FSplit id S K t.snap.pos
  wsplit : FSplit Prod.fst W K t.ws.pos
  key : t.key = some K
  curSnap : t.cur = .snap → t.snap.cur? = some K ∧ t.eq = false
  curWs : t.cur = .ws → (∃ v, t.ws.cur? = some (K, v)) ∧ (t.eq = true ↔ t.snap.cur? = some K)
  wsAhead : t.cur = .snap → ∀ e, t.ws.cur? = some e → K < e.1
  curSome : t.cur ≠ .none

/-- the mirror image after a backward move: each source stands on its greatest key `≤ K` -/
structure BwdState (S : List Nat) (W : List (Nat × Bool)) (t : TI) (K : Nat) : Prop where
  sxs : t.snap.xs = S
  wxs : t.ws.xs = W
  dir : t.dir = .bwd
  ssplit : BSplit id S (K + 1) t.snap.pos
  wsplit : BSplit Prod.fst W (K + 1) t.ws.pos
  key : t.key = some K
  curSnap : t.cur = .snap → t.snap.cur? = some K ∧ t.eq = false
  curWs : t.cur = .ws → (∃ v, t.ws.cur? = some (K, v)) ∧ (t.eq = true ↔ t.snap.cur? = some K)
  wsBehind : t.cur = .snap → ∀ e, t.ws.cur? = some e → e.1 < K
  curSome : t.cur ≠ .none

section
variable {α : Type} {key : α → Nat} {xs : List α}

theorem sorted_split {l : List α} {x : α} {r : List α}
    (hs : SortedBy key xs) (h : xs = l.reverse ++ x :: r) :
    (∀ a ∈ l, key a < key x) ∧ (∀ b ∈ r, key x < key b) := by
  subst h
  unfold SortedBy at hs
  rw [List.pairwise_append, List.pairwise_cons] at hs
  exact ⟨fun a ha => hs.2.2 a (by simpa using ha) x (by simp), hs.2.1.1⟩

theorem mem_of_split {l : List α} {x : α} {r : List α} (h : xs = l.reverse ++ x :: r) : x ∈ xs := by
  subst h; simp

theorem split_length {l : List α} {x : α} {r : List α} (h : xs = l.reverse ++ x :: r) :
    xs.length = l.length + r.length + 1 := by
  subst h; simp; omega

theorem SortedBy.key_inj (hs : SortedBy key xs) {a b : α} (ha : a ∈ xs) (hb : b ∈ xs)
    (h : key a = key b) : a = b :=
  (List.Pairwise.eq_or_rel hs ha hb).elim id fun h' => absurd h (h'.elim Nat.ne_of_lt Nat.ne_of_gt)

theorem forall_some_of_none {o : Option α} {P : α → Prop} (h : o = none) : ∀ a, o = some a → P a :=
  fun _ h' => nomatch h.symm.trans h'

theorem forall_some_of_some {o : Option α} {P : α → Prop} {b : α} (h : o = some b) (p : P b) :
    ∀ a, o = some a → P a :=
  fun _ h' => Option.some.inj (h.symm.trans h') ▸ p

end

theorem sorted_key_unique {W : List (Nat × Bool)} (hs : SortedBy Prod.fst W) {a b : Nat × Bool}
    (ha : a ∈ W) (hb : b ∈ W) (h : a.1 = b.1) : a = b :=
  hs.key_inj ha hb h

def At (key : α → Nat) (xs : List α) (k : Nat) (pos : Option (List α × α × List α)) : Prop :=
  ∃ l x r, pos = some (l, x, r) ∧ key x = k ∧ xs = l.reverse ++ x :: r

/-- Re-entering forward, as the direction-change prologue of `TransactionRangeIterator::next`
(src/transaction.rs) treats the source that is not current: an exhausted source starts again at its
first element, a positioned one moves on. -/
def Cur.turnF (c : Cur α) : Cur α := if !c.valid then c.first else c.next

/-- the mirror image, for the prologue of `prev` -/
def Cur.turnB (c : Cur α) : Cur α := if !c.valid then c.last else c.prev

section
variable {α : Type} {key : α → Nat} {xs : List α} {c : Cur α} {X Y k : Nat} {a b : α}

theorem Cur.next_xs (c : Cur α) : c.next.xs = c.xs := by
  unfold Cur.next; split <;> rfl

theorem Cur.prev_xs (c : Cur α) : c.prev.xs = c.xs := by
  unfold Cur.prev; split <;> rfl

theorem Cur.first_xs (c : Cur α) : c.first.xs = c.xs := rfl
theorem Cur.last_xs (c : Cur α) : c.last.xs = c.xs := rfl

theorem Cur.turnF_xs (c : Cur α) : c.turnF.xs = c.xs := by
  unfold Cur.turnF; split <;> simp [Cur.next_xs, Cur.first_xs]

theorem Cur.turnB_xs (c : Cur α) : c.turnB.xs = c.xs := by
  unfold Cur.turnB; split <;> simp [Cur.prev_xs, Cur.last_xs]

attribute [simp] Cur.next_xs Cur.prev_xs Cur.first_xs Cur.last_xs Cur.turnF_xs Cur.turnB_xs

theorem Cur.cur?_eq_some : c.cur? = some b ↔ ∃ l r, c.pos = some (l, b, r) := by
  unfold Cur.cur?
  cases c.pos with
  | none => simp
  | some z => obtain ⟨l, x, r⟩ := z; simp

theorem Cur.valid_of_cur? (h : c.cur? = some b) : c.valid = true := by
  obtain ⟨l, r, hp⟩ := Cur.cur?_eq_some.mp h
  simp [Cur.valid, hp]

theorem FSplit.frontier_le (h : FSplit key xs X c.pos) (hb : c.cur? = some b) : X ≤ key b := by
  obtain ⟨l, r, hp⟩ := Cur.cur?_eq_some.mp hb
  rw [hp] at h
  exact h.2.2

theorem FSplit.at (h : FSplit key xs X c.pos) (hb : c.cur? = some b) : At key xs (key b) c.pos := by
  obtain ⟨l, r, hp⟩ := Cur.cur?_eq_some.mp hb
  rw [hp] at h ⊢
  exact ⟨l, b, r, rfl, rfl, h.1⟩

theorem FSplit.cur_mem (h : FSplit key xs X c.pos) (hb : c.cur? = some b) : b ∈ xs := by
  obtain ⟨l, r, hp⟩ := Cur.cur?_eq_some.mp hb
  rw [hp] at h
  exact mem_of_split h.1

theorem FSplit.raise {X' : Nat} (h : FSplit key xs X c.pos) (h1 : X ≤ X')
    (h2 : ∀ b, c.cur? = some b → X' ≤ key b) : FSplit key xs X' c.pos := by
  cases hp : c.pos with
  | none => rw [hp] at h; exact fun a ha => Nat.lt_of_lt_of_le (h a ha) h1
  | some z =>
    obtain ⟨l, x, r⟩ := z
    rw [hp] at h
    exact ⟨h.1, fun a ha => Nat.lt_of_lt_of_le (h.2.1 a ha) h1, h2 x (Cur.cur?_eq_some.mpr ⟨l, r, hp⟩)⟩

theorem FSplit.cur_le_mem (hs : SortedBy key xs) (h : FSplit key xs X c.pos)
    (ha : a ∈ xs) (hx : X ≤ key a) : ∃ b, c.cur? = some b ∧ key b ≤ key a := by
  cases hp : c.pos with
  | none => rw [hp] at h; exact absurd (h a ha) (Nat.not_lt.mpr hx)
  | some z =>
    obtain ⟨l, x, r⟩ := z
    rw [hp] at h
    obtain ⟨hxs, hl, _⟩ := h
    refine ⟨x, Cur.cur?_eq_some.mpr ⟨l, r, hp⟩, ?_⟩
    rw [hxs] at ha
    rcases List.mem_append.mp ha with ha | ha
    · exact absurd (hl a (List.mem_reverse.mp ha)) (Nat.not_lt.mpr hx)
    · rcases List.mem_cons.mp ha with rfl | ha
      · exact Nat.le_refl _
      · exact Nat.le_of_lt ((sorted_split hs hxs).2 a ha)

theorem FSplit_next_pos {l r : List α} (hp : c.pos = some (l, b, r)) (hxs : xs = l.reverse ++ b :: r)
    (hl : ∀ a ∈ b :: l, key a < X) (hr : ∀ a ∈ r, X ≤ key a) : FSplit key xs X c.next.pos := by
  have hxs' : xs = (b :: l).reverse ++ r := by rw [hxs, List.reverse_cons, List.append_assoc]; rfl
  cases r with
  | nil =>
    simp only [Cur.next, hp, FSplit]
    intro a ha
    rw [hxs', List.append_nil] at ha
    exact hl a (List.mem_reverse.mp ha)
  | cons y r =>
    simp only [Cur.next, hp, FSplit]
    exact ⟨hxs', hl, hr y (List.mem_cons_self ..)⟩

theorem At.next (hs : SortedBy key xs) (h : At key xs k c.pos) : FSplit key xs (k + 1) c.next.pos := by
  obtain ⟨l, b, r, hp, rfl, hxs⟩ := h
  obtain ⟨h1, h2⟩ := sorted_split hs hxs
  refine FSplit_next_pos hp hxs (fun a ha => ?_) h2
  rcases List.mem_cons.mp ha with rfl | ha
  · exact Nat.lt_succ_self _
  · exact Nat.lt_succ_of_lt (h1 a ha)

theorem FSplit.next (hs : SortedBy key xs) (h : FSplit key xs X c.pos) (hb : c.cur? = some b) :
    FSplit key xs (key b + 1) c.next.pos :=
  (h.at hb).next hs

theorem FSplit_of_first (hx : c.xs = xs) (h : ∀ a ∈ xs, X ≤ key a) : FSplit key xs X c.first.pos := by
  obtain ⟨_ | ⟨x, r⟩, pos⟩ := c <;> subst hx
  · nofun
  · exact ⟨rfl, nofun, h x (by simp)⟩

theorem FSplit_seekGo (key : α → Nat) (k : Nat) : ∀ (r l : List α),
    (∀ a ∈ l, key a < k) →
    FSplit key (l.reverse ++ r) k (Cur.seekGo (fun a => decide (key a < k)) l r) := by
  intro r
  induction r with
  | nil => exact fun l hl a ha => hl a (by simpa using ha)
  | cons x r ih =>
    intro l hl
    unfold Cur.seekGo
    split
    next hx =>
      have := ih (x :: l) (List.forall_mem_cons.mpr ⟨of_decide_eq_true hx, hl⟩)
      rwa [List.reverse_cons, List.append_assoc] at this
    next hx => exact ⟨rfl, hl, Nat.le_of_not_lt (of_decide_eq_false (Bool.eq_false_iff.mpr hx))⟩

theorem FSplit_seek (key : α → Nat) (k : Nat) (c : Cur α) :
    FSplit key c.xs k (c.seek fun a => decide (key a < k)).pos :=
  FSplit_seekGo key k c.xs [] nofun

theorem BSplit.lt_bound (h : BSplit key xs Y c.pos) (hb : c.cur? = some b) : key b < Y := by
  obtain ⟨l, r, hp⟩ := Cur.cur?_eq_some.mp hb
  rw [hp] at h
  exact h.2.2

theorem BSplit.at (h : BSplit key xs Y c.pos) (hb : c.cur? = some b) : At key xs (key b) c.pos := by
  obtain ⟨l, r, hp⟩ := Cur.cur?_eq_some.mp hb
  rw [hp] at h ⊢
  exact ⟨l, b, r, rfl, rfl, h.1⟩

theorem BSplit.cur_mem (h : BSplit key xs Y c.pos) (hb : c.cur? = some b) : b ∈ xs := by
  obtain ⟨l, r, hp⟩ := Cur.cur?_eq_some.mp hb
  rw [hp] at h
  exact mem_of_split h.1

theorem BSplit.lower {Y' : Nat} (h : BSplit key xs Y c.pos) (h1 : Y' ≤ Y)
    (h2 : ∀ b, c.cur? = some b → key b < Y') : BSplit key xs Y' c.pos := by
  cases hp : c.pos with
  | none => rw [hp] at h; exact fun a ha => Nat.le_trans h1 (h a ha)
  | some z =>
    obtain ⟨l, x, r⟩ := z
    rw [hp] at h
    exact ⟨h.1, fun a ha => Nat.le_trans h1 (h.2.1 a ha), h2 x (Cur.cur?_eq_some.mpr ⟨l, r, hp⟩)⟩

theorem BSplit.mem_le_cur (hs : SortedBy key xs) (h : BSplit key xs Y c.pos)
    (ha : a ∈ xs) (hx : key a < Y) : ∃ b, c.cur? = some b ∧ key a ≤ key b := by
  cases hp : c.pos with
  | none => rw [hp] at h; exact absurd (h a ha) (Nat.not_le.mpr hx)
  | some z =>
    obtain ⟨l, x, r⟩ := z
    rw [hp] at h
    obtain ⟨hxs, hr, _⟩ := h
    refine ⟨x, Cur.cur?_eq_some.mpr ⟨l, r, hp⟩, ?_⟩
    rw [hxs] at ha
    rcases List.mem_append.mp ha with ha | ha
    · exact Nat.le_of_lt ((sorted_split hs hxs).1 a (List.mem_reverse.mp ha))
    · rcases List.mem_cons.mp ha with rfl | ha
      · exact Nat.le_refl _
      · exact absurd (hr a ha) (Nat.not_le.mpr hx)

theorem BSplit_prev_pos {l r : List α} (hp : c.pos = some (l, b, r)) (hxs : xs = l.reverse ++ b :: r)
    (hl : ∀ a ∈ l, key a < Y) (hr : ∀ a ∈ b :: r, Y ≤ key a) : BSplit key xs Y c.prev.pos := by
  cases l with
  | nil =>
    simp only [Cur.prev, hp, BSplit]
    intro a ha
    rw [hxs] at ha
    exact hr a ha
  | cons y l =>
    simp only [Cur.prev, hp, BSplit]
    exact ⟨by rw [hxs, List.reverse_cons, List.append_assoc]; rfl, hr, hl y (List.mem_cons_self ..)⟩

theorem At.prev (hs : SortedBy key xs) (h : At key xs k c.pos) : BSplit key xs k c.prev.pos := by
  obtain ⟨l, b, r, hp, rfl, hxs⟩ := h
  obtain ⟨h1, h2⟩ := sorted_split hs hxs
  refine BSplit_prev_pos hp hxs h1 fun a ha => ?_
  rcases List.mem_cons.mp ha with rfl | ha
  · exact Nat.le_refl _
  · exact Nat.le_of_lt (h2 a ha)

theorem BSplit.prev (hs : SortedBy key xs) (h : BSplit key xs Y c.pos) (hb : c.cur? = some b) :
    BSplit key xs (key b) c.prev.pos :=
  (h.at hb).prev hs

theorem lastGo_spec : ∀ (r l : List α) (x : α),
    ∃ l' z, Cur.lastGo l x r = (l', z, []) ∧ l.reverse ++ x :: r = l'.reverse ++ [z] := by
  intro r
  induction r with
  | nil => intro l x; exact ⟨l, x, rfl, rfl⟩
  | cons y r ih =>
    intro l x
    obtain ⟨l', z, h1, h2⟩ := ih (x :: l) y
    exact ⟨l', z, by simp only [Cur.lastGo]; exact h1, by rw [← h2]; simp⟩

theorem BSplit_of_last (hx : c.xs = xs) (h : ∀ a ∈ xs, key a < Y) : BSplit key xs Y c.last.pos := by
  obtain ⟨_ | ⟨x, r⟩, pos⟩ := c <;> subst hx
  · nofun
  · obtain ⟨l', z, h1, h2⟩ := lastGo_spec r [] x
    simp only [Cur.last, h1]
    exact ⟨h2, nofun, h z (mem_of_split h2)⟩

-- `BSplit … Y` and `FSplit … Y` describe the same cut of the list, seen from either side: turning
-- round steps across it
theorem BSplit.turnF (hs : SortedBy key xs) (hx : c.xs = xs) (h : BSplit key xs Y c.pos) :
    FSplit key xs Y c.turnF.pos := by
  obtain ⟨cxs, _ | ⟨l, x, r⟩⟩ := c
  · exact FSplit_of_first hx h
  · obtain ⟨hxs, hr, hxY⟩ := h
    refine FSplit_next_pos (c := ⟨cxs, some (l, x, r)⟩) rfl hxs (fun a ha => ?_) hr
    rcases List.mem_cons.mp ha with rfl | ha
    · exact hxY
    · exact Nat.lt_trans ((sorted_split hs hxs).1 a ha) hxY

theorem FSplit.turnB (hs : SortedBy key xs) (hx : c.xs = xs) (h : FSplit key xs X c.pos) :
    BSplit key xs X c.turnB.pos := by
  obtain ⟨cxs, _ | ⟨l, x, r⟩⟩ := c
  · exact BSplit_of_last hx h
  · obtain ⟨hxs, hl, hXx⟩ := h
    refine BSplit_prev_pos (c := ⟨cxs, some (l, x, r)⟩) rfl hxs hl fun a ha => ?_
    rcases List.mem_cons.mp ha with rfl | ha
    · exact hXx
    · exact Nat.le_trans hXx (Nat.le_of_lt ((sorted_split hs hxs).2 a ha))

end

theorem not_live_tomb {S : List Nat} {W : List (Nat × Bool)} {m : Nat} (hW : SortedBy Prod.fst W) (h : (m, true) ∈ W) : ¬ Live S W m := by
  rintro (⟨_, hn⟩ | hl)
  · exact hn _ h rfl
  · cases sorted_key_unique hW h hl rfl

/-- outcome of a positioning loop: on a key `K` in a state with `P t K` (`P` an invariant such as
`FwdState S W`), or exhausted -/
def LandedOn (P : TI → Nat → Prop) (t : TI) : Option Nat → Prop
  | some K => P t K
  | none => t.cur = .none

theorem LandedOn.mono {P Q : TI → Nat → Prop} {t : TI} {o : Option Nat} (h : LandedOn P t o)
    (hPQ : ∀ K, P t K → Q t K) : LandedOn Q t o := by
  cases o with
  | some K => exact hPQ K h
  | none => exact h

theorem LandedOn.key {P : TI → Nat → Prop} {t : TI} {o : Option Nat} (h : LandedOn P t o)
    (hP : ∀ K, P t K → t.key = some K) : t.key = o := by
  cases o with
  | some K => exact hP K h
  | none => simp only [LandedOn] at h; simp [TI.key, h]

/-- the option form of an outcome as the disjunction the C09 statements are written with -/
theorem LandedOn.some_or_none {P : TI → Nat → Prop} {t : TI} {Q : Option Nat → Prop}
    (h : ∃ o, LandedOn P t o ∧ Q o) : (∃ K, P t K ∧ Q (some K)) ∨ (t.cur = .none ∧ Q none) := by
  obtain ⟨_ | K, h1, h2⟩ := h
  · exact Or.inr ⟨h1, h2⟩
  · exact Or.inl ⟨K, h1, h2⟩

-- a turn from a state satisfying `FwdState`/`BwdState` ends here (`turnBwd_spec`, `turnFwd_spec`): from
-- such states `eqCheck` changes nothing
theorem eqCheck_noop {t : TI} (h : ∀ a b, t.snap.cur? = some a → t.ws.cur? = some b → a ≠ b.1) :
    t.eqCheck = t := by
  obtain ⟨⟨sxs, spos⟩, ⟨wxs, wpos⟩, eq, cur, dir⟩ := t
  cases spos with
  | none => simp [TI.eqCheck, Cur.valid]
  | some sz =>
    cases wpos with
    | none => simp [TI.eqCheck, Cur.valid]
    | some wz =>
      obtain ⟨sl, x, sr⟩ := sz
      obtain ⟨wl, e, wr⟩ := wz
      have := h x e (by simp [Cur.cur?]) (by simp [Cur.cur?])
      simp [TI.eqCheck, Cur.valid, TI.snapKey, TI.wsKey, Cur.cur?, this]

theorem turnFwd_eq (t : TI) : t.turnFwd = TI.eqCheck { t with
    dir := .fwd, eq := false
    snap := if !t.snap.valid then t.snap.first else if t.ws.valid && t.cur != .snap then t.snap.next else t.snap
    ws := if !t.ws.valid then t.ws.first else if t.snap.valid && t.cur == .snap then t.ws.next else t.ws } := by
  obtain ⟨⟨sxs, _ | sz⟩, ⟨wxs, _ | wz⟩, eq, _ | _ | _, dir⟩ := t <;> rfl

theorem turnBwd_eq (t : TI) : t.turnBwd = TI.eqCheck { t with
    dir := .bwd, eq := false
    snap := if !t.snap.valid then t.snap.last else if t.ws.valid && t.cur != .snap then t.snap.prev else t.snap
    ws := if !t.ws.valid then t.ws.last else if t.snap.valid && t.cur == .snap then t.ws.prev else t.ws } := by
  obtain ⟨⟨sxs, _ | sz⟩, ⟨wxs, _ | wz⟩, eq, _ | _ | _, dir⟩ := t <;> rfl

/-- both lists at once, so that each operation needs one preservation lemma instead of two -/
def TI.lists (t : TI) : List Nat × List (Nat × Bool) := (t.snap.xs, t.ws.xs)

-- the branches that stop hold by `rfl`, those that go round the loop by the induction hypothesis
@[simp] theorem posMin_lists (f : Nat) (t : TI) : (TI.posMin f t).lists = t.lists := by
  fun_induction TI.posMin f t <;> first | rfl | (rename_i ih; exact ih.trans (by simp [TI.lists]))

@[simp] theorem posMax_lists (f : Nat) (t : TI) : (TI.posMax f t).lists = t.lists := by
  fun_induction TI.posMax f t <;> first | rfl | (rename_i ih; exact ih.trans (by simp [TI.lists]))

@[simp] theorem eqCheck_lists (t : TI) : t.eqCheck.lists = t.lists := by
  unfold TI.eqCheck; split <;> rfl

@[simp] theorem turnFwd_lists (t : TI) : t.turnFwd.lists = t.lists := by
  rw [turnFwd_eq, eqCheck_lists]
  simp only [TI.lists, apply_ite Cur.xs, Cur.next_xs, Cur.first_xs, ite_self]

@[simp] theorem turnBwd_lists (t : TI) : t.turnBwd.lists = t.lists := by
  rw [turnBwd_eq, eqCheck_lists]
  simp only [TI.lists, apply_ite Cur.xs, Cur.prev_xs, Cur.last_xs, ite_self]

@[simp] theorem stepFwd_lists (t : TI) : t.stepFwd.lists = t.lists := by
  unfold TI.stepFwd
  split
  · rw [posMin_lists]; simp [TI.lists]
  · split
    · rw [posMin_lists]; simp [TI.lists]
    · rw [posMin_lists]; simp [TI.lists]
    · rfl

@[simp] theorem stepBwd_lists (t : TI) : t.stepBwd.lists = t.lists := by
  unfold TI.stepBwd
  split
  · rw [posMax_lists]; simp [TI.lists]
  · split
    · rw [posMax_lists]; simp [TI.lists]
    · rw [posMax_lists]; simp [TI.lists]
    · rfl
