import Skv.Props.C02
#print axioms DInv.reach
#print axioms C02_acked_survive_process_crash_partial
#print axioms C03_recovered_is_prefix_partial
#print axioms C03_unacked_at_most_one_partial
#print axioms C07_recovered_below_next_partial
#print axioms C07_recover_after_cleanup
#print axioms finding_straddle
/-- non-vacuity: a run inside the hypothesis with two rotations, a flush and a clean-up; batch 0 now
lives in a table, batches 1-2 in segments, all three are recovered -/
example :
    let ops : List DOp := [.walAppend, .applyAck, .rotate, .walAppend, .applyAck, .flushOldest, .cleanupWal,
                           .rotate, .walAppend]
    noStraddle false ops = true ∧ (DState.run {} ops).recover = [0, 1, 2] ∧ (DState.run {} ops).acked = [0, 1] := by
  decide

#print axioms C02_acked_survive_process_crash
#print axioms C02_acked_survive_reopen
#print axioms C03_recovered_only_written
#print axioms fixed_recovery_retired_a_split_segment
#print axioms C07_reopen_same_contents
#print axioms C07_recovered_below_next
