import Skv.Props.C17
#print axioms perm_initWith
#print axioms C17_queue_never_overflows
#print axioms C17_consts_ok
#print axioms C17_fixed_overflow_schedule
#print axioms C17_no_circular_wait
#print axioms C17_lock_progress
#print axioms C17_ops_disciplined
#print axioms C17_old_reader_order_deadlocks

#print axioms C17_no_lost_wakeup
#print axioms C17_signal_releases
#print axioms C17_released_committer_returns
#print axioms C17_late_registration_loses_wakeup
#print axioms C17_pipeline_progress
#print axioms PState.run_append
#print axioms C17_effective_steps_bounded
#print axioms C17_all_calls_return
#print axioms C17_stall_has_work_scheduled
#print axioms C17_checkpoints_without_wake_stall_for_good
#print axioms C17_apply_excludes_rotation
#print axioms C17_close_stops_background_tasks
