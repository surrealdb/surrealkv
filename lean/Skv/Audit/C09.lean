import Skv.Props.C09
#print axioms FSplit_seekGo
#print axioms C09_seek_first
#print axioms C09_seek
#print axioms C09_position_to_min
#print axioms Positioned.key
#print axioms C09_next
#print axioms C09_prev
#print axioms C09_seek_last
#print axioms exists_gt
#print axioms GreatestLT_top
#print axioms seekLast_live
#print axioms apply_lists
#print axioms apply_tracked
#print axioms C09_cursor_trace
#print axioms C09_cursor_trace_fresh
/-- non-vacuity and the pre-fix defect (P1): snapshot {3}, write set {2}: seek_last, prev, next must
return to 3 -/
example : ((TI.start [3] [(2, false)]).seekLast.prev.next).key = some 3 := rfl
example : ((TI.start [1, 3, 5] [(2, false), (3, true), (6, false)]).seekFirst.next.next).key = some 5 := rfl
