import Skv.Props.C01
#print axioms C01_compaction_stable
#print axioms C01_later_commits_invisible
#print axioms map_erase_perm
#print axioms tracker_perm_live
#print axioms C01_tracker_covers_live_readers
#print axioms physGet_eq_flatten
#print axioms C01_component_search_newest
#print axioms compactKey_reads_ok

/-- non-vacuity: put(1), delete(2), put(3) with readers at 1 and 2, last level: the reader at 1 keeps
its value, the tombstone stays because of it, the reader at 2 and later readers see what they saw -/
example :
    let vs : List Ver := [⟨3, .set, 3⟩, ⟨2, .delete, 2⟩, ⟨1, .set, 1⟩]
    let out := compactKey ⟨true, false, 0, 9⟩ [1, 2] vs
    out = vs ∧ readAt 1 out = some ⟨1, .set, 1⟩ ∧ readAt 2 out = none := by decide
/-- the pre-fix defect (P5): delete newest at the last level with a reader below it — now kept -/
example :
    compactKey ⟨true, false, 0, 9⟩ [1] [⟨2, .delete, 2⟩, ⟨1, .set, 1⟩] = [⟨2, .delete, 2⟩, ⟨1, .set, 1⟩] := rfl
example : compactKey ⟨true, false, 0, 9⟩ [5] [⟨2, .delete, 2⟩, ⟨1, .set, 1⟩] = [] := rfl
#print axioms C01_begin_atomic_with_capture
#print axioms fixed_begin_raced_with_compaction_capture
