import Skv.Props.C18
#print axioms C18_get
#print axioms C18_insert
#print axioms C18_delete
#print axioms C18_scan_sorted
#print axioms C18_refines_map
#print axioms C18_empty_wf
#print axioms C18_merge_leaves
#print axioms C18_redistribute
#print axioms C18_redistribute_content
#print axioms C18_overflow_roundtrip
#print axioms C18_replace_separator
#print axioms C18_chain_ownership
#print axioms rotRightBad_breaks
#print axioms C18_scan_complete
#print axioms fixed_scan_stopped_at_empty_leaf
