import Skv.Props.C04
#print axioms C04_invariant
#print axioms C04_check_sound
#print axioms C04_first_committer_wins
#print axioms C04_rollback_preserves
#print axioms C04_gc_safe
#print axioms C04_keptSince_mono
#print axioms exact_commit
#print axioms exact_run
#print axioms C04_no_false_abort_partial
#print axioms finding_ghost_stamp
#print axioms C04_consts_ok

/-- non-vacuity: a reachable state with two live batches on one key, one rolled back, GC having run
(interval 2) — the hypotheses of the theorems are met by real traces -/
example :
    let s := OState.init.run 2 [.commit [0] 0 0, .commit [0, 1] 1 1, .commit [1] 3 3, .fail 4, .commit [0] 3 3]
    s.live.length = 3 ∧ s.o.keptSince = 3 ∧ isConflict (s.o.check [0] 3) = true := by
  decide
