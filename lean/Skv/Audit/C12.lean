import Skv.Props.C12
#print axioms C12_roundtrip
#print axioms C12_resume
#print axioms C12_resume_twice
#print axioms C12_repair_clean
#print axioms C12_repair_idempotent
#print axioms C12_repair_reads_back
#print axioms C12_append_after_repair
#print axioms C12_consts_ok
#print axioms C12_truncation_prefix
#print axioms C12_truncation_repair
#print axioms C12_records_before_damage
#print axioms C12_damage_after_prefix

/-- a valid parameter set exists (non-vacuity of the `Params` hypotheses) and a fragmenting write
happens in it: block size 16, a 20-byte record is split into three fragments -/
def auditParams : Params where
  B := 16
  crc := fun ty d => [ty, UInt8.ofNat d.length, 0, 0]
  crc_len := by intro t d; rfl
  hB := by decide
  hB16 := by decide

example : readAll auditParams (writeAll auditParams 0 [List.replicate 20 1, [], [2, 3]]).1
    = ([List.replicate 20 1, [], [2, 3]], .eof) := by decide
