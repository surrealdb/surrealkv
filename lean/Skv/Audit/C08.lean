import Skv.Props.C08
#print axioms C08_program_refines
#print axioms C08_reach_sim
#print axioms C08_reach_wswf
#print axioms C08_ryow
#print axioms C08_savepoint_restore_spec
#print axioms C08_savepoint_restore
#print axioms C08_rollback_discards
#print axioms C08_modes
#print axioms C08_commit_order
#print axioms C08_commit_effect

/-- non-vacuity: a concrete non-trivial program reaches an open read-write state with a nested
savepoint and two pending versions of one key (the hypotheses of `C08_ryow` /
`C08_savepoint_restore` are satisfiable). -/
example :
    let t := runState (Txn.step (fun _ => none)) (Txn.start .readWrite)
      [.write [1] (some [10]) .set 0, .setSp, .write [1] (some [11]) .set 0, .write [2] none .delete 0]
    t.mode = .readWrite ∧ t.closed = false ∧ t.savepoints = 1 ∧ t.batch.length = 3 := by decide

/-- a program on the model against its outputs written out (a test, not the theorem) -/
example :
    runProg (Txn.step (fun _ => some [7])) (Txn.start .readWrite)
      [.write [1] (some [10]) .set 0, .setSp, .write [1] none .delete 0, .get [1], .rbSp, .get [1], .get [3]]
    = [.ok, .ok, .ok, .val none, .ok, .val (some [10]), .val (some [7])] := rfl
