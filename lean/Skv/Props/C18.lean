import Skv.Lemmas.BTreeIns
import Skv.Lemmas.BtOverflow
/-!
# C18 — the B+tree index is a persistent ordered map

Model: `BT` (first child + (separator, child) pairs; an equal key goes right, as in
`InternalNode::find_child_index`), `BT.get`, `BT.insert` with leaf and internal splits under an
ARBITRARY split policy (the code decides by byte sizes: every policy is covered), `BT.del` at the
leaf, the leaf rebalancing steps (`mergeLeaves`, `redistFromLeft/Right` with the first key of the
new right leaf as separator), and the overflow-chain slot of an internal key (`prepareSlot`,
`decodeSlot`, `replaceSeparator`).  Specification: the sorted association list (`listInsert`,
`listDelete`, `lookup`, filter for ranges).
Proved: lookups, insertion with any splits and leaf deletion refine the ordered map and keep the
structural invariant (sorted keys, separator bounds, strictly increasing separators); the flat list
is sorted (so range scans are the filtered list); leaf merges and redistributions keep content,
order and bounds; a consistent overflow slot decodes to its key after write + reload and the repaired
separator replacement keeps slots consistent and frees the old chain.  Kernel-checked witnesses show
what the code did before the repair.  Validated by the differential stream only (partial):
internal-node merges/redistribution, the free-list allocator (`pages_conserved` is checked by the
audit walk on every run, not proved), page codecs, reopen.
-/

theorem C18_get (t : BT) (h : t.wf none none) (k : Nat) : t.get k = lookup t.toList k :=
  BT.get_eq h k

theorem C18_insert (p : Policy) (t : BT) (k v : Nat) (h : t.wf none none) :
    (t.insert p k v).toList = listInsert t.toList k v ∧ (t.insert p k v).wf none none := by
  obtain ⟨a, b⟩ := BT.ins_spec p h ⟨nofun, nofun⟩ v
  unfold BT.insert
  cases hi : t.ins p k v with
  | one t' => rw [hi] at a b; exact ⟨a, b⟩
  | two l s r =>
    rw [hi] at a b
    exact ⟨(BT.toList_node_cons ..).trans (by rw [BT.toList_node_nil]; exact a),
      BT.wf_node_cons.2 ⟨b.2.1, b.1, BT.wf_node_nil.2 b.2.2⟩⟩

theorem C18_delete (t : BT) (k : Nat) (h : t.wf none none) :
    (t.del k).toList = listDelete t.toList k ∧ (t.del k).wf none none :=
  BT.del_spec h k

/-- the leaves in order are strictly sorted: a range scan is the filtered sorted list -/
theorem C18_scan_sorted (t : BT) (h : t.wf none none) : t.toList.Pairwise (fun a b => a.1 < b.1) :=
  (BT.wf_toList h).1

inductive BOp | ins (k v : Nat) | del (k : Nat)

def BT.apply (p : Policy) (t : BT) : BOp → BT
  | .ins k v => t.insert p k v
  | .del k => t.del k
def listApply (l : List (Nat × Nat)) : BOp → List (Nat × Nat)
  | .ins k v => listInsert l k v
  | .del k => listDelete l k

/-- any sequence of inserts and deletes, under any split policy, is the ordered map -/
theorem C18_refines_map (p : Policy) (ops : List BOp) (t : BT) (h : t.wf none none) :
    (ops.foldl (BT.apply p) t).toList = ops.foldl listApply t.toList ∧ (ops.foldl (BT.apply p) t).wf none none := by
  induction ops generalizing t with
  | nil => exact ⟨rfl, h⟩
  | cons op ops ih =>
    have ⟨a, b⟩ : (BT.apply p t op).toList = listApply t.toList op ∧ (BT.apply p t op).wf none none := by
      cases op with
      | ins k v => exact C18_insert p t k v h
      | del k => exact C18_delete t k h
    rw [List.foldl_cons, List.foldl_cons, ← a]
    exact ih _ b

theorem C18_empty_wf : (BT.leaf []).wf none none := ⟨.nil, nofun⟩

theorem C18_merge_leaves (l r : List (Nat × Nat)) (lo hi : Option Nat) (s : Nat)
    (hl : (BT.leaf l).wf lo (some s)) (hr : (BT.leaf r).wf (some s) hi) (hs : inBs lo hi s) :
    (BT.leaf (mergeLeaves l r)).wf lo hi := mergeLeaves_wf hl hr hs

theorem C18_redistribute (l' r' : List (Nat × Nat)) (lo hi : Option Nat) (f : Nat × Nat)
    (hsorted : (l' ++ r').Pairwise (fun a b => a.1 < b.1)) (hb : ∀ e ∈ l' ++ r', inB lo hi e.1)
    (hf : r'.head? = some f) (hne : l' ≠ []) :
    (BT.leaf l').wf lo (some f.1) ∧ (BT.leaf r').wf (some f.1) hi ∧ inBs lo hi f.1 :=
  redist_wf hsorted hb hf hne

theorem C18_redistribute_content (l r : List (Nat × Nat)) (n : Nat) :
    (redistFromLeft l r n).1 ++ (redistFromLeft l r n).2.2 = l ++ r ∧
      (redistFromRight l r n).1 ++ (redistFromRight l r n).2.2 = l ++ r := by
  simp only [redistFromLeft, redistFromRight]
  rw [← List.append_assoc, List.take_append_drop, List.append_assoc, List.take_append_drop]
  exact ⟨rfl, rfl⟩

/-- overflow chains: write + reload of a consistent slot gives the key back -/
theorem C18_overflow_roundtrip (loc : Nat) (st : ChainStore) (s : Slot) (h : slotConsistent loc st s) :
    decodeSlot loc (prepareSlot loc st s).1 (prepareSlot loc st s).2 = some s.key ∧
      slotConsistent loc (prepareSlot loc st s).1 (prepareSlot loc st s).2 :=
  have ⟨a, b, c⟩ := prepareSlot_spec h
  ⟨a ▸ decode_of_consistent b (a ▸ c), b⟩

theorem C18_replace_separator (loc : Nat) (st : ChainStore) (s : Slot) (k : List Nat) :
    slotConsistent loc (replaceSeparator st s k).1 (replaceSeparator st s k).2 ∧
      (∀ c, s.ovf = some c → (replaceSeparator st s k).1.get c = none) :=
  ⟨by unfold replaceSeparator; cases s.ovf <;> simp [slotConsistent],
   fun c h => by rw [replaceSeparator, h]; exact get_free_self st c⟩

def exPolicy : Policy :=
  { leaf := fun es => if es.length > 2 then some (es.length / 2) else none,
    node := fun n => if n > 2 then some (n / 2) else none }

/-- non-vacuity: nine inserts with a policy that cuts leaves of more than two entries and nodes of
more than two separators build a three-level well-formed tree that answers like the list -/
example :
    let t := [(5, 50), (1, 10), (9, 90), (3, 30), (7, 70), (2, 20), (8, 80), (4, 40), (6, 60)].foldl
      (fun t kv => t.insert exPolicy kv.1 kv.2) (BT.leaf [])
    t.toList.map (·.1) = [1, 2, 3, 4, 5, 6, 7, 8, 9] ∧ t.get 6 = some 60 ∧ t.get 10 = none ∧
      (match t with | .node (.node _ _) _ => true | _ => false) = true := by decide

/-- **overflow chains keep exactly one owner through internal rebalancing.**  Rotating a key through
the parent in either direction (`redistribute_internal_from_left/right`) and merging two internal
nodes (`merge_internal_nodes`) leave the sequence of slots — each with its chain — unchanged, so
ownership (`Owned`: every chain holds its key's tail, no chain has two owners, none is leaked) is
kept with no allocation and no free; a leaf merge drops the separator and frees its chain, and
ownership holds for what remains. -/
theorem C18_chain_ownership (loc : Nat) (st : ChainStore) (t : Trio) (h : Owned loc st t.slots) :
    (∀ t', rotRight t = some t' → Owned loc st t'.slots) ∧
    (∀ t', rotLeft t = some t' → Owned loc st t'.slots) ∧
    Owned loc st (mergeInternal t) ∧
    Owned loc (dropSeparator st t.2.1) (t.1 ++ t.2.2) :=
  ⟨fun _ h' => rotRight_slots h' ▸ h, fun _ h' => rotLeft_slots h' ▸ h, h,
   dropSeparator_owned h⟩

/-- non-vacuity of `Owned`, and the rotation really moves a slot -/
example :
    let loc := 2
    let (st1, a) := prepareSlot loc {} { key := [1, 1, 1, 1], ovf := none }
    let (st2, p) := prepareSlot loc st1 { key := [5, 5, 5, 5], ovf := none }
    (rotRight ([a], p, [])).map (fun t => (t.1.length, t.2.1.key, t.2.2.length)) = some (0, [1, 1, 1, 1], 1) ∧
      st2.chains.length = 2 ∧ a.ovf = some 0 ∧ p.ovf = some 1 := ⟨rfl, rfl, rfl, rfl⟩

/-- **a full scan lists every entry, whatever leaves deletes have emptied.**  The cursor's walk over the
leaf chain (`seek_first`, then `next` to the end), with `advance_to_next_leaf` going on to the next
non-empty leaf, visits exactly the entries of the tree in order. -/
theorem C18_scan_complete (t : BT) : walkFwd true t.leaves = t.toList :=
  (walk_skip false _).trans (BT.leaves_flatten t)

/-- the defect repaired by `8434f42`, kernel-checked: with a leaf in the middle emptied by deletes the
walk that does not skip it stops there -/
theorem fixed_scan_stopped_at_empty_leaf :
    let t := BT.node (.leaf [(1, 10)]) (.cons 5 (.leaf []) (.cons 9 (.leaf [(9, 90)]) .nil))
    walkFwd false t.leaves = [(1, 10)] ∧ walkFwd true t.leaves = [(1, 10), (9, 90)] ∧
      t.toList = [(1, 10), (9, 90)] := by decide
