import Skv.Props.C01
/-!
# C06 — flush, compaction, caching and reopen never change query answers

Per key, the physical arrangement is a list of components (memtables and tables in search order)
each holding versions newest first.  Rotation, flush and reopen move whole components without
touching their contents, so the flattened version list — hence every answer — is literally
unchanged; compaction replaces the versions of a key by `compactKey` of them, and that preserves
the answer of every registered snapshot (C01) *and of every later reader* (`C06_compaction_tip`):
in particular a deleted or overwritten key never shows an older value again, also when its
tombstone is discarded at the last level.
-/

/-- what a reader that begins after the compaction (horizon above every version) reads -/
def readTip (vs : List Ver) : Option Ver := topValue vs

/-- **Compaction never changes the answer for later readers** (every level, every configuration,
every snapshot set): the newest version's value is preserved; at the last level a dropped
tombstone and "nothing" are the same answer. -/
theorem C06_compaction_tip (c : CCfg) (snaps : List Nat) (vs : List Ver)
    (hs : SortedAsc snaps) (hsd : SortedDesc vs) :
    readTip (compactKey c snaps vs) = readTip vs :=
  compactKey_topValue hs hsd none nofun

/-- compaction invents nothing and keeps the order -/
theorem C06_compaction_sublist (c : CCfg) (snaps : List Nat) (vs : List Ver) :
    (compactKey c snaps vs).Sublist vs := compactGo_sublist

/-- above the last level the newest version itself (tombstones included) is kept, so it keeps
masking whatever lies in deeper levels -/
theorem C06_nonbottom_keeps_newest (c : CCfg) (snaps : List Nat) (v : Ver) (rest : List Ver)
    (hb : c.bottom = false) : (compactKey c snaps (v :: rest)).head? = some v :=
  compactKey_head_tip (by simp [latestDeleteAtBottom, hb])

/-- moving whole components (rotation: active → immutable; flush: memtable → table; reopen: the same
tables again) does not change the flattened version list, hence no answer -/
theorem C06_rearrangement_invisible (s : Nat) (before after : List (List Ver))
    (h : before.flatten = after.flatten) : physGet s before = physGet s after := by
  rw [physGet_eq_flatten, physGet_eq_flatten, h]

/-- replacing some components of a key by their compaction keeps every registered reader's and
every later reader's answer, given the merged input is what the compaction saw -/
theorem C06_compaction_in_place (c : CCfg) (snaps : List Nat) (pre merged post : List Ver)
    (hs : SortedAsc snaps) (hsd : SortedDesc merged) (s : Nat) (hmem : s ∈ snaps)
    (hpre : ∀ v ∈ pre, s < v.seq) :
    readAt s (pre ++ compactKey c snaps merged) = readAt s (pre ++ merged) := by
  rw [C01_later_commits_invisible hpre, C01_later_commits_invisible hpre]
  exact C01_compaction_stable c snaps merged hs hsd s hmem
