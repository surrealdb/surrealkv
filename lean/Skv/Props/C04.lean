import Skv.Lemmas.Oracle
import Skv.Model.Consts
/-!
# C04 — no lost updates: first committer wins

Model: `Oracle` (literal port of `src/oracle.rs`, with the repaired `rollback`) inside the
transition system `OState.step`, whose `commit` event is the critical section of
`CommitPipeline::commit` (check → seq allocation → publish, one atomic step under `write_mutex`)
and whose `fail` event is the rollback after a WAL or apply failure.  Keys are fingerprints:
a fingerprint collision can only add conflicts, never hide one.  All statements hold for every
GC interval (the code's value is `Consts.gcInterval`) and every event sequence.
-/
open Oracle

/-- the soundness invariant holds in every reachable state -/
theorem C04_invariant (gc : Nat) (evs : List OEv) : OInv (OState.init.run gc evs) :=
  oinv_run oinv_init gc evs

/-- **check is sound.** In every reachable state, if `check keys start` succeeds then no live
batch (published, not rolled back — committed or still in flight) with a stamp above `start`
wrote any of the keys: a successful check never overlooks a commit made after the checker began. -/
theorem C04_check_sound (gc : Nat) (evs : List OEv) (keys : List Nat) (start : Nat) :
    let s := OState.init.run gc evs
    s.o.check keys start = .ok () → ∀ b ∈ s.live, start < b.stamp → ¬ sharesKey b.keys keys :=
  fun hok => check_sound _ (C04_invariant gc evs) keys start hok

/-- **First committer wins.** In every reachable state, of any two live batches that share a key
the later one began at or after the earlier one's commit stamp, i.e. their lifetimes did not
overlap: two transactions that overlap in time and write the same key never both commit —
including across garbage collection of the conflict map and across rollbacks of failed batches. -/
theorem C04_first_committer_wins (gc : Nat) (evs : List OEv) :
    (OState.init.run gc evs).live.Pairwise (fun a b => sharesKey a.keys b.keys → a.stamp ≤ b.start) :=
  (C04_invariant gc evs).fcw

/-- the failure path keeps the invariant (full strength: any live batch may fail at any time) -/
theorem C04_rollback_preserves (s : OState) (h : OInv s) (b : OBatch) (hb : b ∈ s.live) :
    OInv { s with o := s.o.rollback b.keys b.stamp, live := s.live.filter (fun x => x.stamp != b.stamp) } :=
  oinv_rollback h b.keys b.stamp

/-- **GC is safe for registered transactions.** The kept window only ever moves to the clamped
`oldest_active` passed by the committer, so a transaction whose start is not below it is
never pruned: if every registered start `r` satisfies `keptSince ≤ r` and `oa ≤ r`, this still
holds after the step, hence registered transactions never get `retry`. -/
theorem C04_gc_safe (gc : Nat) (s : OState) (keys : List Nat) (start oa : Nat) (regs : List Nat)
    (h1 : ∀ r ∈ regs, s.o.keptSince ≤ r) (h2 : ∀ r ∈ regs, min oa start ≤ r) :
    ∀ r ∈ regs, (s.step gc (.commit keys start oa)).1.o.keptSince ≤ r := by
  intro r hr
  rcases OState.step_keptSince gc s (.commit keys start oa) with h | ⟨_, _, _, he, h, _⟩
  · rw [h]; exact h1 r hr
  · cases he; rw [h]; exact h2 r hr

/-- the kept window never moves backwards (so `retry` is permanent for a given start) -/
theorem C04_keptSince_mono (gc : Nat) (s : OState) (ev : OEv) :
    s.o.keptSince ≤ (s.step gc ev).1.o.keptSince := by
  rcases OState.step_keptSince gc s ev with h | ⟨_, _, _, _, h, hlt⟩
  · exact Nat.le_of_eq h.symm
  · exact Nat.le_of_lt (Nat.lt_of_lt_of_eq hlt h.symm)

/-! ### no false aborts (partial: traces without failed commits) -/

/-- **No false aborts (partial).** On every trace without failed commits: if `check` reports a
conflict then some live batch with a stamp above `start` really wrote one of the keys
(fingerprints taken as keys), and `retry` is reported only below the kept window.  The full
statement (traces *with* failures) is false of the code: see `finding_ghost_stamp`. -/
theorem C04_no_false_abort_partial (gc : Nat) (evs : List OEv) (hnf : noFail evs)
    (keys : List Nat) (start : Nat) :
    let s := OState.init.run gc evs
    (s.o.check keys start = .error .conflict → ∃ b ∈ s.live, start < b.stamp ∧ sharesKey b.keys keys) ∧
    (s.o.check keys start = .error .retry → start < s.o.keptSince) := by
  intro s
  have hc := check_spec s.o keys start
  refine ⟨fun h => ?_, fun h => by rw [h] at hc; exact hc⟩
  rw [h] at hc
  obtain ⟨k, hk, e, he, hlt⟩ := hc
  obtain ⟨b, hb, hbs, hbk⟩ := exact_run oinv_init nofun gc evs hnf k e he
  exact ⟨b, hb, Nat.lt_of_lt_of_eq hlt hbs.symm, k, hbk, hk⟩

/-- witness of the remaining defect (known finding `ghost-stamp-after-double-rollback`):
three commits of key 0, the 2nd and the 3rd fail in that order; a transaction that began at 1
(after the only surviving commit, stamp 1) is refused although no live batch is newer. -/
def ghostTrace : List OEv :=
  [.commit [0] 0 0, .commit [0] 1 0, .commit [0] 2 0, .fail 2, .fail 3]

def isConflict : Except CErr Unit → Bool
  | .error .conflict => true
  | _ => false

theorem finding_ghost_stamp :
    isConflict ((OState.init.run 1024 ghostTrace).o.check [0] 1) = true ∧
    (OState.init.run 1024 ghostTrace).live.map (·.stamp) = [1] := by decide

/-- the GC interval of the code is positive (a zero interval would sweep on every publish) -/
theorem C04_consts_ok : 0 < Consts.gcInterval := by decide
