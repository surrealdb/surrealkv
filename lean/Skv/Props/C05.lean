import Skv.Lemmas.Pipeline
import Skv.Model.Consts
/-!
# C05 — commits become visible atomically, in one real-time-consistent total order

Model: the transition system `PState.stepThread` / `PState.begin` of `Skv/Model/Pipeline.lean`
(every step is what one committer thread does between two consecutive yield points of
`CommitPipeline::commit` / `publish`; any interleaving of any number of threads is a run).
All statements hold for every run from an initial state — any thread count, any batch sizes,
any apply-completion order, failures included unless stated otherwise.
-/
open PState

theorem C05_invariant (n gc p c : Nat) (ops : List POp) :
    PInv ((PState.initWith n gc p c).run ops) ∧ ReqInv ((PState.initWith n gc p c).run ops) :=
  run_induction (I := fun s => PInv s ∧ ReqInv s)
    (fun _ i req h => ⟨pinv_begin h.1 i req, reqInv_begin h.2 i req⟩)
    (fun _ i h => ⟨pinv_step h.1 h.2 i, reqInv_step h.2 i⟩) ⟨pinv_initWith n gc p c, reqInv_initWith n gc p c⟩ ops

/-- **the horizon never moves backwards** (every operation, every state) -/
theorem C05_visible_mono (s : PState) (op : POp) : s.visible ≤ (s.apply op).visible := by
  cases op with
  | begin i req =>
    show s.visible ≤ (s.begin i req).visible
    rcases begin_cases s i req with e | ⟨_, _, _, e⟩ <;> rw [e] <;> exact Nat.le_refl _
  | step i => exact (stepThread_cap_visible s i).2

theorem C05_visible_mono_run (s : PState) (ops : List POp) : s.visible ≤ (s.run ops).visible := by
  induction ops generalizing s with
  | nil => exact Nat.le_refl _
  | cons op ops ih => exact Nat.le_trans (C05_visible_mono s op) (ih _)

/-- **publication is FIFO**: the publish loop removes only the head of the queue and only when it
has been marked applied; nothing else ever leaves the queue. -/
theorem C05_publish_fifo (s : PState) (i : Nat) (t : Thread) (f : Nat) (k : FK) :
    (s.publishTop i t f k).queue = s.queue ∨
    ∃ b rest, s.queue = b :: rest ∧ b.applied = true ∧ (s.publishTop i t f k).queue = rest := by
  generalize hs : s.publishTop i t f k = s'
  have h := hs ▸ publishTop_spec s i t f k
  cases h with
  | dequeue b rest hq ha => exact .inr ⟨b, rest, hq, ha, rfl⟩
  | leaveWal => exact .inl (finish_queue ..)
  | leave => exact .inl rfl

/-- **the horizon is never strictly inside a batch**: for every allocated batch, the horizon is
either below its first or at/after its last sequence number. -/
theorem C05_horizon_on_batch_boundary (n gc p c : Nat) (ops : List POp) :
    let s := (PState.initWith n gc p c).run ops
    ∀ f cnt fl, (f, cnt, fl) ∈ s.batches → s.visible < f ∨ f + cnt - 1 ≤ s.visible :=
  (C05_invariant n gc p c ops).1.noInside

/-- **batches still in the queue are invisible**: every queued (not yet published) batch lies
entirely above the horizon. -/
theorem C05_queued_invisible (n gc p c : Nat) (ops : List POp) :
    let s := (PState.initWith n gc p c).run ops
    ∀ qb ∈ s.queue, s.visible < qb.first :=
  (C05_invariant n gc p c ops).1.queue_above

/-- **Atomic visibility (partial: batches whose commit did not fail).** In every reachable state,
every non-failed batch whose last sequence number is at or below the horizon is completely applied:
a reader at any horizon `≤ visible` sees all of it or (by `C05_horizon_on_batch_boundary`) none of it.
The statement for *failed* batches is false of the code — `finding_failed_commit_visible`. -/
theorem C05_atomic_partial (n gc p c : Nat) (ops : List POp) :
    let s := (PState.initWith n gc p c).run ops
    ∀ f cnt, (f, cnt, false) ∈ s.batches → f + cnt - 1 ≤ s.visible → bmem s f cnt :=
  (C05_invariant n gc p c ops).1.atomic

/-- **Real-time order.** A commit is reported successful (its completion is `ok`) only after the
horizon covers its whole batch; since the horizon is monotone and `begin` loads the current
horizon, every transaction begun after `commit()` returned sees it, and sees everything ordered
before it (`C05_atomic_partial` for all batches below the horizon). -/
theorem C05_ok_implies_visible (n gc p c : Nat) (ops : List POp) :
    let s := (PState.initWith n gc p c).run ops
    ∀ f, s.completedRes f = some .ok → ∃ cnt fl, (f, cnt, fl) ∈ s.batches ∧ f + cnt - 1 ≤ s.visible :=
  (C05_invariant n gc p c ops).1.ok_visible

theorem C05_begin_loads_horizon (s : PState) (i : Nat) (req : CommitReq) (t : Thread)
    (ht : s.threads[i]? = some t) (hr : t.pc = .ready) :
    (s.begin i req).threads[i]? = some { t with pc := .begun s.visible, req := req } := by
  simp [PState.begin, ht, hr, List.getElem?_set_self_of ht]

/-- witness of the defect shared with C15 (known finding `failed-commit-partially-visible`):
one committer, a 2-entry batch whose apply fails at the second entry; after the failed call has
drained the queue the horizon is 2 and entry 1 of the failed batch is in the memtable. -/
def failedVisibleRun : List POp :=
  [.begin 0 { keys := [0, 1], failApplyAt := some 1 }, .step 0, .step 0, .step 0, .step 0, .step 0,
   .step 0, .step 0, .step 0, .step 0]

theorem finding_failed_commit_visible :
    let s := (PState.initWith 1 1024 7 8).run failedVisibleRun
    s.visible = 2 ∧ s.mem = [1] ∧ s.batches = [(1, 2, true)] ∧
    (s.threads.map (·.results)) = [[CRes.errApply]] := by decide

/-- the pipeline constants the model is instantiated with (regenerated from src/commit.rs):
the ring has 8 slots and the semaphore one permit fewer -/
theorem C05_consts_ok :
    Consts.maxConcurrentCommits = 8 ∧ Consts.commitPermits + 1 = Consts.maxConcurrentCommits := by decide
