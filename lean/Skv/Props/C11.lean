import Skv.Lemmas.VlogGc
/-!
# C11 — separated large values stay intact and reachable

Model: `VS` — value-log files on disk, the active file, the live tables with the file ids their
value pointers lead to and the `oldest_vlog_file_id` each table records (`tabOldest`: the running
minimum kept by `TableWriter::add`), the manifest minimum (`minOldest`) and `cleanup` (files below
it, never the active one).  Proved for every history of file rotations, table creations (flush,
compaction output), table removals and clean-ups: every value pointer of every live table leads to
a file that still exists (`C11_pointers_resolve`), also while a compaction round has hidden its inputs and
flushes run beside it (`C11_pointers_resolve_during_compaction`).  That values come back byte for byte, for every
size around the separation threshold, through flush, compaction, rotation, clean-up, reopen and
crash images, with readers open across all of it, is decided by the store stream (placement-free
specification) and by a walk over all live tables' pointers after every compaction; the encoding
of pointers and value-log entries and their damage detection are C16's.  Power loss (unsynced
value-log data at the moment a table is installed) is not modelled: partial.
-/

inductive VAct
  | newFile (f : Nat) | addTable (id : Nat) (ptrs : List Nat) | dropTables (ids : List Nat) | cleanup

def VS.act (s : VS) : VAct → VS
  | .newFile f => s.newFile f
  | .addTable id ptrs => s.addTable id ptrs
  | .dropTables ids => s.dropTables ids
  | .cleanup => s.cleanup

/-- side condition of a table creation: its pointers were just written, to existing files with positive ids -/
def actOk (s : VS) : VAct → Prop
  | .addTable _ ptrs => (∀ p ∈ ptrs, p ∈ s.files) ∧ (∀ p ∈ ptrs, 0 < p)
  | _ => True

def runOk : VS → List VAct → Prop
  | _, [] => True
  | s, a :: rest => actOk s a ∧ runOk (s.act a) rest

theorem C11_pointers_resolve (acts : List VAct) (s : VS) (h : s.inv) (hok : runOk s acts) :
    (acts.foldl VS.act s).inv := by
  induction acts generalizing s with
  | nil => exact h
  | cons a rest ih =>
    refine ih _ ?_ hok.2
    cases a with
    | newFile f => exact h.newFile f
    | addTable id ptrs => exact h.addTable id hok.1.1 hok.1.2
    | dropTables ids => exact h.dropTables ids
    | cleanup => exact h.cleanup

theorem C11_init : ({} : VS).inv := by intro t ht; cases ht

/-- the clean-up keeps the active file -/
theorem C11_active_kept (s : VS) (h : s.active ∈ s.files) : s.active ∈ s.cleanup.files :=
  VS.mem_cleanup_files.mpr ⟨h, .inr rfl⟩

/-- the recorded oldest id is the minimum of the pointers (what `C11_pointers_resolve` rests on) -/
theorem C11_oldest_is_min (ptrs : List Nat) (p : Nat) (hp : p ∈ ptrs) : tabOldest ptrs ≤ p := tabOldest_le hp

/-- witness: recording the FIRST pointer instead of the minimum lets the clean-up delete a referenced file -/
theorem C11_witness_first_pointer :
    let s : VS := { files := [1, 2, 3], active := 3,
                    tables := [{ id := 9, ptrs := [3, 1], oldest := 3 }] }
    (1 : Nat) ∉ s.cleanup.files := by decide

/-- non-vacuity: two flushes, a compaction whose output still needs file 2 but not file 1, clean-up: file 1 goes -/
example :
    let acts : List VAct := [.newFile 1, .addTable 10 [1, 1], .newFile 2, .addTable 11 [2], .newFile 3,
      .addTable 12 [3, 2], .dropTables [10, 11], .cleanup]
    runOk {} acts ∧ ((acts.foldl VS.act {}).files = [3, 2]) := by
  refine ⟨?_, by decide⟩
  simp only [runOk, actOk]
  decide


def act2Ok (x : VS2) : VAct2 → Prop
  | .flush _ ptrs => (∀ p ∈ ptrs, p ∈ x.s.files) ∧ (∀ p ∈ ptrs, 0 < p)
  | _ => True

def run2Ok : VS2 → List VAct2 → Prop
  | _, [] => True
  | x, a :: rest => act2Ok x a ∧ run2Ok (x.act false a) rest

/-- **pointers resolve also across a running compaction.**  For every history in which flushes (each with
freshly written pointers), file rotations and clean-ups run while a compaction round has hidden its inputs,
and the round's output — carrying the inputs' pointers — is installed later: every value pointer of every
live table leads to an existing file.  The only side condition is on flushes; that the output's pointers
resolve follows, since its inputs stay counted by the manifest minimum. -/
theorem C11_pointers_resolve_during_compaction (acts : List VAct2) (x : VS2) (h : x.s.inv) (hok : run2Ok x acts) :
    (acts.foldl (VS2.act false) x).s.inv := by
  induction acts generalizing x with
  | nil => exact h
  | cons a rest ih =>
    refine ih _ ?_ hok.2
    cases a with
    | newFile f => exact h.newFile f
    | flush id ptrs => exact h.addTable id hok.1.1 hok.1.2
    | cleanup => exact h.cleanup
    | hide ids => exact h
    | finish newId => exact h.finish newId x.hidden

/-- the seeded variant (hidden inputs left out of the minimum): a flush committing during the round deletes
the file the round's output will point into -/
theorem hidden_inputs_must_be_counted :
    let acts : List VAct2 := [.newFile 1, .flush 10 [1], .newFile 2, .hide [10], .flush 11 [2], .cleanup, .finish 12]
    let bad := acts.foldl (VS2.act true) {}
    let good := acts.foldl (VS2.act false) {}
    (bad.s.tables.map (·.ptrs) = [[1], [2]] ∧ bad.s.files = [2]) ∧ good.s.files = [2, 1] := by decide
