import Skv.Lemmas.TxnSim
/-!
# C08 — inside a transaction: read-your-writes, savepoints, rollback and modes

Model: `Txn.step` (literal port of `src/transaction.rs`'s write-set
machine); specification: `STxn.step` (stack of overlay frames over the snapshot).
All statements quantify over every mode, every snapshot function, every program.
-/
open Txn

theorem C08_reach_sim (m : Mode) (snap : Key → Option Val) (ops : List TOp) :
    Sim (runState (Txn.step snap) (Txn.start m) ops) (runState (STxn.step snap) (STxn.start m) ops) :=
  (sim_run (sim_start m) snap ops).2

theorem C08_reach_wswf (m : Mode) (snap : Key → Option Val) (ops : List TOp) :
    WsWf (runState (Txn.step snap) (Txn.start m) ops) :=
  wf_run wf_clear snap ops

/-- **Main refinement.** Every program (any mode, any snapshot, any sequence of set / delete /
soft delete / replace / explicit-timestamp writes, reads, nested savepoints, partial rollbacks,
rollback, commit with either pipeline verdict) produces exactly the outputs of the overlay-stack
specification. -/
theorem C08_program_refines (m : Mode) (snap : Key → Option Val) (ops : List TOp) :
    runProg (Txn.step snap) (Txn.start m) ops = runProg (STxn.step snap) (STxn.start m) ops :=
  (sim_run (sim_start m) snap ops).1

/-- read-your-writes: in any reachable open read-write/… state, a read of `k` right after a
successful write of `k` returns that write (a pending delete hides the key). -/
theorem C08_ryow (m : Mode) (snap : Key → Option Val) (ops : List TOp)
    (k : Key) (v : Option Val) (kind : Kind) (ts : Nat) :
    let t := runState (Txn.step snap) (Txn.start m) ops
    t.mode = .readWrite → t.closed = false → k.isEmpty = false →
    ((t.write k v kind ts).1.getFull snap k) = .ok (if kind.isTomb then none else v) := by
  intro t hm hc hk
  have hmut : t.mode.mutable = true := by rw [hm]; rfl
  have hi := inv_write t _ (C08_reach_sim m snap ops).inv k v kind ts hmut hc hk
  rw [write_ok v kind ts hmut hc hk] at hi ⊢
  rw [Txn.getFull, get_refines _ _ hi k hc hk (by rw [hm]; exact Mode.noConfusion), Spec.get_write_self]
  rfl

/-- writes issued inside a savepoint touch only the innermost frame -/
private theorem writes_head (ws : List W) (f : List W) (fs : List (List W)) :
    ∃ f', (ws.foldl Spec.write ⟨f :: fs⟩) = ⟨f' :: fs⟩ := by
  induction ws generalizing f with
  | nil => exact ⟨f, rfl⟩
  | cons w ws ih => exact ih (w :: f)

/-- savepoint restore (specification level): `set_savepoint`, any number of writes,
`rollback_to_savepoint` gives back exactly the pending writes that existed at the savepoint.
Together with `C08_program_refines` this holds of the model for arbitrarily nested uses. -/
theorem C08_savepoint_restore_spec (s : Spec) (ws : List W) (h : s.frames ≠ []) :
    (ws.foldl Spec.write s.setSavepoint).rollbackToSavepoint = some s := by
  obtain ⟨frames⟩ := s
  cases frames with
  | nil => exact absurd rfl h
  | cons f fs =>
    obtain ⟨f', hf⟩ := writes_head ws [] (f :: fs)
    simp only [Spec.setSavepoint]
    rw [hf]; rfl

private theorem run_writes (snap : Key → Option Val) {m : Mode} (hm : m.mutable = true)
    (l : List (Key × Option Val × Kind × Nat)) (hk : ∀ w ∈ l, w.1.isEmpty = false) (sp : Spec) :
    runState (STxn.step snap) ⟨m, false, sp⟩ (l.map fun w => TOp.write w.1 w.2.1 w.2.2.1 w.2.2.2) =
      ⟨m, false, (l.map fun w => (⟨w.1, w.2.1, w.2.2.1, w.2.2.2⟩ : W)).foldl Spec.write sp⟩ := by
  induction l generalizing sp with
  | nil => rfl
  | cons w l ih =>
    rw [List.forall_mem_cons] at hk
    simp only [List.map_cons, runState, STxn.step, hm, hk.1, List.foldl_cons]
    exact ih hk.2 _

/-- savepoint restore (model level, one level): after `set_savepoint; writes; rollback_to_savepoint`
every key reads as before the savepoint. -/
theorem C08_savepoint_restore (m : Mode) (snap : Key → Option Val) (ops : List TOp)
    (ws : List (Key × Option Val × Kind × Nat)) (k : Key) :
    let t := runState (Txn.step snap) (Txn.start m) ops
    let prog := [TOp.setSp] ++ ws.map (fun w => TOp.write w.1 w.2.1 w.2.2.1 w.2.2.2) ++ [TOp.rbSp]
    let t' := runState (Txn.step snap) t prog
    t.mode = .readWrite → t.closed = false → (∀ w ∈ ws, w.1.isEmpty = false) →
    t'.getFull snap k = t.getFull snap k := by
  intro t prog t' hm hc hks
  have hsim := C08_reach_sim m snap ops
  generalize runState (STxn.step snap) (STxn.start m) ops = s at hsim
  refine getFull_congr hsim ?_ snap k
  have hsim' := (sim_run hsim snap prog).2
  obtain ⟨sm, sc, ss⟩ := s
  obtain ⟨rfl, rfl⟩ : sm = .readWrite ∧ sc = false := ⟨hsim.mode.symm.trans hm, hsim.closed.symm.trans hc⟩
  -- on the specification the block is the identity
  have hspec : runState (STxn.step snap) ⟨.readWrite, false, ss⟩ prog = ⟨.readWrite, false, ss⟩ := by
    obtain ⟨f, fs, hfr, -⟩ := inv_frames hsim.inv
    dsimp only at hfr
    rw [runState_append, runState_append]
    show runState _ (runState _ (⟨.readWrite, false, ss.setSavepoint⟩ : STxn) _) _ = _
    rw [run_writes snap rfl ws hks]
    show (STxn.step snap _ .rbSp).1 = _
    simp only [STxn.step, Mode.mutable, C08_savepoint_restore_spec ss _ (hfr ▸ List.cons_ne_nil _ _)]
    rfl
  rwa [hspec] at hsim'

/-- rollback discards everything: the write set is empty (nothing can ever be committed) and
every later operation except `rollback` is refused with `Closed`/`ReadOnly`. -/
theorem C08_rollback_discards (t : Txn) :
    t.rollback.ws = [] ∧ t.rollback.batch = [] ∧ t.rollback.closed = true ∧
    (∀ okp, (t.rollback.commit okp).2 = .error .closed) ∧
    (∀ k, t.rollback.get k = .error .closed) :=
  ⟨rfl, rfl, rfl, fun _ => rfl, fun _ => rfl⟩

private theorem Mode.mutable_of_ne {m : Mode} (h : m ≠ .readOnly) : m.mutable = true := by
  cases m with
  | readOnly => exact absurd rfl h
  | readWrite | writeOnly => rfl

/-- mode / closed decision table, stated outright. -/
theorem C08_modes (t : Txn) (snap : Key → Option Val) :
    (t.mode = .readOnly → ∀ k v kind ts, (t.step snap (.write k v kind ts)).2 = .err .readOnly) ∧
    (t.mode = .readOnly → (t.step snap .setSp).2 = .err .readOnly ∧
        (t.step snap .rbSp).2 = .err .readOnly) ∧
    (t.mode = .readOnly → t.closed = false → ∀ okp, (t.step snap (.commit okp)).2 = .err .readOnly) ∧
    (t.mode = .writeOnly → t.closed = false → ∀ k, k.isEmpty = false →
        (t.step snap (.get k)).2 = .err .writeOnly) ∧
    (t.closed = true → t.mode ≠ .readOnly → ∀ k v kind ts,
        (t.step snap (.write k v kind ts)).2 = .err .closed) ∧
    (t.closed = true → ∀ k, (t.step snap (.get k)).2 = .err .closed) ∧
    (t.closed = true → ∀ okp, (t.step snap (.commit okp)).2 = .err .closed) ∧
    (∀ k v kind ts, t.mode ≠ .readOnly → t.closed = false → k.isEmpty = true →
        (t.step snap (.write k v kind ts)).2 = .err .emptyKey) := by
  refine ⟨?_, ?_, ?_, ?_, ?_, ?_, ?_, ?_⟩
  · intro h k v kind ts; simp [Txn.step, Txn.write, h, Mode.mutable, exceptOut]
  · intro h; simp [Txn.step, Txn.setSavepoint, Txn.rollbackToSavepoint, h, Mode.mutable, exceptOut]
  · intro h hc okp; simp [Txn.step, Txn.commit, h, hc]
  · intro h hc k hk; simp [Txn.step, Txn.getFull, Txn.get, h, hc, hk]
  · intro hc hm k v kind ts
    simp [Txn.step, Txn.write, Mode.mutable_of_ne hm, hc, exceptOut]
  · intro hc k; simp [Txn.step, Txn.getFull, Txn.get, hc]
  · intro hc okp; simp [Txn.step, Txn.commit, hc]
  · intro k v kind ts hm hc hk
    simp [Txn.step, Txn.write, Mode.mutable_of_ne hm, hc, hk, exceptOut]

/-- commit order: the batch handed to the pipeline is a permutation of the surviving entries,
sorted by issue number. -/
theorem C08_commit_order (t : Txn) :
    t.batch.Perm (t.ws.flatMap (·.2)) ∧ t.batch.Pairwise (fun a b => a.seqno ≤ b.seqno) :=
  ⟨foldr_insBySeq_perm _, foldr_insBySeq_sorted _⟩

/-- commit effect: in every reachable state, applying the batch in order leaves, for each key,
exactly what a read inside the transaction returned for it (the newest surviving write). -/
theorem C08_commit_effect (m : Mode) (snap : Key → Option Val) (ops : List TOp) (k : Key) :
    let t := runState (Txn.step snap) (Txn.start m) ops
    let s := runState (STxn.step snap) (STxn.start m) ops
    ((t.batch.filter (fun e => e.key == k)).getLast?).map entryView = s.spec.get k := by
  intro t s
  rw [batch_filter_key (C08_reach_wswf m snap ops) k]
  exact inv_last (C08_reach_sim m snap ops).inv k
