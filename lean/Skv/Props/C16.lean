import Skv.Lemmas.Guard
import Skv.Props.C12
import Skv.Lemmas.VCache
/-!
# C16 — damaged files are detected, never served as data

Table files: every block (data, index partition, top-level index, meta index, and — after the fix —
the filter block) is stored as `payload ++ type byte ++ checksum(payload ++ type byte)` and read only
through `readBlock`.  `C16_block_guard`: a change of any byte inside a block's span makes the read
fail (outright if it hits the stored checksum; given that the checksum function separates the two
payloads otherwise — the CRC-32 fact assumed, evaluated on every generated alteration);
`C16_block_frame`: damage elsewhere leaves the block's read unchanged; `C16_no_unguarded_byte`: a
region list that tiles the file assigns every offset to a region (checked on the real file of every
case, together with the region kinds).  The footer is not a checksummed block: its magic, format
and checksum-type bytes fail the open when changed, its padding is never interpreted, its two block
handles are guarded only indirectly (validated by the sweep; no theorem).
Commit-log segments: C12's theorems (record CRC, torn tail ⇒ corruption).
Value-log files and whole directories are covered by the store-level sweep only (no model): partial.
-/

theorem C16_block_frame (crc : List Nat → List Nat) (f : List Nat) (h : Handle) (i v : Nat)
    (hout : i < h.off ∨ h.off + h.span ≤ i) : readBlock crc (f.set i v) h = readBlock crc f h := by
  unfold readBlock Handle.span at *
  simp only
  rw [slice_set_outside f h.off (h.size + 1) i v (by omega),
    slice_set_outside f (h.off + h.size + 1) 4 i v (by omega)]

/-- **guard**: if a block reads back, any change of a byte inside its span makes the read fail —
outright when the change hits the stored checksum, and under `crc body' ≠ crc body` when it hits
the payload or the type byte. -/
theorem C16_block_guard (crc : List Nat → List Nat) (f : List Nat) (h : Handle) (p : List Nat)
    (hok : readBlock crc f h = some p) (i v : Nat) (hin : h.off ≤ i ∧ i < h.off + h.span)
    (hv : f[i]? ≠ some v)
    (hdet : crc (slice (f.set i v) h.off (h.size + 1)) ≠ crc (slice f h.off (h.size + 1)) ∨
            slice (f.set i v) h.off (h.size + 1) = slice f h.off (h.size + 1)) :
    readBlock crc (f.set i v) h = none := by
  unfold readBlock at hok ⊢
  simp only at hok ⊢
  split at hok
  · rename_i hc
    obtain ⟨hl1, hl2, hcrc⟩ := hc
    rw [if_neg]
    intro hc'
    obtain ⟨_, _, hcrc'⟩ := hc'
    rcases Nat.lt_or_ge i (h.off + h.size + 1) with hbody | hcks
    · -- the change is in payload / type byte: the stored checksum is unchanged
      rcases hdet with hd | hd
      · rw [slice_set_outside f (h.off + h.size + 1) 4 i v (.inl hbody), ← hcrc] at hcrc'
        exact hd hcrc'
      · exact slice_set_inside_ne ⟨hin.1, hbody⟩ hl1 hv hd
    · -- the change is in the stored checksum: the body is unchanged
      rw [slice_set_outside f h.off (h.size + 1) i v (.inr hcks), hcrc] at hcrc'
      exact slice_set_inside_ne ⟨hcks, hin.2⟩ hl2 hv hcrc'.symm
  · cases hok

/-- damage in the stored checksum itself needs no assumption about the checksum function -/
theorem C16_checksum_bytes_guard (crc : List Nat → List Nat) (f : List Nat) (h : Handle) (p : List Nat)
    (hok : readBlock crc f h = some p) (i v : Nat)
    (hin : h.off + h.size + 1 ≤ i ∧ i < h.off + h.span) (hv : f[i]? ≠ some v) :
    readBlock crc (f.set i v) h = none := by
  apply C16_block_guard crc f h p hok i v ⟨Nat.le_trans (Nat.le_add_right _ (h.size + 1)) hin.1, hin.2⟩ hv
  right
  exact slice_set_outside f h.off (h.size + 1) i v (.inr hin.1)

theorem C16_no_unguarded_byte (rs : List Region) (n : Nat) (h : regionsCover rs 0 n = true)
    (off : Nat) (h2 : off < n) : ∃ r, regionOf rs off = some r ∧ r.off ≤ off ∧ off < r.off + r.len :=
  regionsCover_total h (Nat.zero_le _) h2

/-- non-vacuity: a 3-byte payload block at offset 2 of a 12-byte file reads back; changing byte 3
makes the read fail for a checksum that separates the payloads (here: the identity on 4 bytes) -/
example :
    let crc : List Nat → List Nat := fun b => b
    let f := [9, 9, 1, 2, 3, 0, 1, 2, 3, 0, 7, 7]
    readBlock crc f ⟨2, 3⟩ = some [1, 2, 3] ∧ readBlock crc (f.set 3 5) ⟨2, 3⟩ = none ∧
      readBlock crc (f.set 0 5) ⟨2, 3⟩ = some [1, 2, 3] := by decide

/-- **C16 (cached reads).** Through one open store, however often and in whatever order entries are read,
every read that returns data returns bytes that passed their checksum — a damaged entry answers with an
error every time, it is never served from the cache. -/
theorem C16_cached_reads_are_verified (raw : Nat → List Nat) (ok : Nat → Bool) (ids : List Nat)
    (r : Nat × Option (List Nat)) (hr : r ∈ VCache.gets raw ok {} ids) (v : List Nat) (hv : r.2 = some v) :
    ok r.1 = true ∧ v = raw r.1 :=
  gets_ok (c := {}) (fun _ he => nomatch he) ids r hr v hv

/-- the seeded change (value cached before its checksum is verified), kernel-checked: the first read of a
damaged entry fails, the second one serves the damaged bytes -/
theorem cache_before_verify_serves_damage :
    VCache.getsEarly (fun _ => [0xBA, 0xD]) (fun _ => false) {} [7, 7] = [(7, none), (7, some [0xBA, 0xD])] ∧
    VCache.gets (fun _ => [0xBA, 0xD]) (fun _ => false) {} [7, 7] = [(7, none), (7, none)] := ⟨rfl, rfl⟩
