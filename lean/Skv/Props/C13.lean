import Skv.Lemmas.SstCursor
import Skv.Lemmas.SstSep
import Skv.Lemmas.Bloom
/-!
# C13 — sorted tables return exactly what was written

Model: a table is a list of index partitions of data blocks with the separator key the index stores
for each (`Layout`); `tblSeek` / `tblGet` / `TblCtx.*` are the two-level algorithms of
`TableIterator` and `Table::get` (index partition search, in-partition seek, block binary search
over restart points + linear scan, advance over the block gap, bound handling of
`seek_to_first` / `seek_to_last`).  Specification: the flat strictly sorted entry list.
All theorems hold for every well-formed layout — every block size, restart interval, partition
size; compression and checksums are transparent to this level — and `C13_writer_layout_wf` shows
that any cutting of a sorted entry list with the writer's separators is well-formed.
Tied to the code per case: the real file's layout is dumped, checked `layoutWF` and `sepsMatch`
(separators recomputed by the model's `isep` / `isucc`), and every lookup / cursor step is compared.
Not modelled: byte encodings (prefix compression, varints, block trailer, footer), Snappy, the
hash function of the bloom filter (the theorem is generic in the probe positions).
-/

/-- **seek**: the entry reached through index and blocks is the first entry `≥ target` of the table -/
theorem C13_seek (L : Layout) (h : layoutWF L = true) (t : IKey) :
    tblSeek L t = firstGE (flatOf (blocksOf L)) t := tblSeek_eq h t

/-- **point lookup**: `Table::get (k, s)` returns the newest entry of `k` at or below `s`, or nothing -/
theorem C13_get (L : Layout) (h : layoutWF L = true) (k : List Nat) (s : Nat) :
    tblGet L k s = specGet (flatOf (blocksOf L)) k s := by
  have hb := layoutWF_blocks h
  rw [specGet_eq_posGet (sortedEnts_flatOf hb), tblGet, idxSeek_eq (blocksWF_sep_pairwise hb)]
  cases hj : (blocksOf L)[firstGEk ((blocksOf L).map (·.sep)) ⟨k, s⟩]? with
  | none => rw [posGet, (firstGE_flatOf hb _).1 hj, List.getElem?_eq_none (Nat.le_refl _)]
  | some b =>
    rw [posGet_flatOf hb hj, posGet, ← layoutWF_blockSeek h (List.mem_of_getElem? hj)]
    -- what `tblGet` does inside the block is `posGet b.ents` with `blockSeek` for `firstGE`
    rfl

/-- the block-level binary search over restart points followed by the linear scan is exact -/
theorem C13_block_seek (b : PBlock) (hs : sortedEnts b.ents = true) (hr : b.restarts.head? = some 0) (t : IKey) :
    blockSeek b t = firstGE b.ents t := blockSeek_eq hs hr t

/-- the partitioned index finds the same block as a flat index would -/
theorem C13_index_seek (L : Layout) (h : layoutWF L = true) (t : IKey) :
    idxSeek L t = firstGEk ((blocksOf L).map (·.sep)) t :=
  idxSeek_eq (blocksWF_sep_pairwise (layoutWF_blocks h)) t

/-- **cursors under range bounds**: every operation of every cursor program lands exactly where
the list cursor over the in-range entries does (first = first entry satisfying the lower bound,
last = last entry satisfying the upper bound, next/prev = neighbours, never outside the bounds) -/
theorem C13_cursor_step (c : TblCtx) (hw : layoutWF c.L = true) (hm : seqBounded c.flat c.maxSeq)
    (s : TCur) (op : COp) : c.apply s op = specApply c.flat c.lo c.hi s op := by
  cases op with
  | first => exact seekFirst_eq hw hm
  | last => exact seekLast_eq hw hm
  | next => exact next_eq hw hm s
  | prev => exact prev_eq hw hm s
  | seek t => exact seek_eq hw t

theorem C13_cursor_program (c : TblCtx) (hw : layoutWF c.L = true) (hm : seqBounded c.flat c.maxSeq)
    (ops : List COp) (s : TCur) :
    ops.foldl c.apply s = ops.foldl (specApply c.flat c.lo c.hi) s := by
  induction ops generalizing s with
  | nil => rfl
  | cons op ops ih => simp only [List.foldl_cons]; rw [C13_cursor_step c hw hm, ih]

theorem C13_seek_first (c : TblCtx) (hw : layoutWF c.L = true) (hm : seqBounded c.flat c.maxSeq) :
    c.seekFirst = specSeekFirst c.flat c.lo c.hi := seekFirst_eq hw hm

theorem C13_seek_last (c : TblCtx) (hw : layoutWF c.L = true) (hm : seqBounded c.flat c.maxSeq) :
    c.seekLast = specSeekLast c.flat c.lo c.hi := seekLast_eq hw hm

/-- **separators**: between any two keys `a < b` the index separator is in `[a, b)` and does not
share `b`'s user key unless it is `a` itself; the last block's separator is at or above its last key -/
theorem C13_separator (m : Nat) (a b : IKey) (h : ikLt a b = true) :
    ikLe a (isep m a b) = true ∧ ikLt (isep m a b) b = true ∧
      (isep m a b = a ∨ (isep m a b).uk < b.uk) := by
  refine ⟨isep_ge m a b, ?_⟩
  rcases isep_cases m a b with hi | ⟨hi, huk, _⟩ <;> rw [hi]
  · exact ⟨h, .inl rfl⟩
  · have hsb := bsep_lt ((ikLt_iff.mp h).resolve_right fun h' => huk h'.1)
    exact ⟨ikLt_iff.mpr (.inl hsb), .inr hsb⟩

theorem C13_successor (m : Nat) (a : IKey) : ikLe a (isucc m a) = true := by
  by_cases hs : (bsucc a.uk).length ≤ a.uk.length ∧ a.uk < bsucc a.uk
  · rw [isucc, if_pos hs]
    exact ikLe_of_lt (ikLt_iff.mpr (.inl hs.2))
  · rw [isucc, if_neg hs]
    exact ikLe_refl a

/-- whatever the block-cutting policy: consecutive sorted non-empty blocks with the writer's
separators form a well-formed block list -/
theorem C13_writer_layout_wf (m : Nat) (bs : List PBlock)
    (hsorted : ∀ b ∈ bs, sortedEnts b.ents = true)
    (hadj : ∀ (pre : List PBlock) (b b' : PBlock) (post : List PBlock), bs = pre ++ b :: b' :: post →
      ∀ l f, b.ents.getLast? = some l → b'.ents.head? = some f → ikLt l.k f.k = true)
    (hm : sepsMatch m bs = true) : blocksWF bs = true := by
  induction bs with
  | nil => rfl
  | cons b rest ih =>
    have hb := hsorted b List.mem_cons_self
    cases hl : b.ents.getLast? with
    | none => cases rest <;> simp only [sepsMatch, hl, Bool.false_and, Bool.false_eq_true] at hm
    | some l =>
      cases rest with
      | nil =>
        simp only [sepsMatch, hl, beq_iff_eq] at hm
        simp only [blocksWF, hl, hm, isep_ge, hb, Bool.and_self]
      | cons b' rest' =>
        cases hf : b'.ents.head? with
        | none => simp only [sepsMatch, hl, hf, Bool.false_and, Bool.false_eq_true] at hm
        | some f =>
          simp only [sepsMatch, hl, hf, Bool.and_eq_true, beq_iff_eq] at hm
          obtain ⟨h1, h2, h3⟩ := C13_separator m l.k f.k (hadj [] b b' rest' rfl l f hl hf)
          simp only [blocksWF, hl, hf, hm.1, h1, h2, hb, Bool.true_and, Bool.and_eq_true, Bool.or_eq_true,
            beq_iff_eq, decide_eq_true_eq, and_true]
          exact ⟨h3, ih (fun x hx => hsorted x (List.mem_cons_of_mem _ hx))
            (fun pre x x' post heq => hadj (b :: pre) x x' post (by rw [heq]; rfl)) hm.2⟩

/-- **filters never hide a present key** (generic in the hash) -/
theorem C13_bloom_no_false_negative {α : Type} (nbits : Nat) (hn : 0 < nbits) (probes : α → List Nat)
    (keys : List α) (k : α) (hk : k ∈ keys) : mayContain (buildFilter nbits probes keys) probes k = true :=
  bloom_no_false_negative nbits hn probes keys k hk

/-- **key-range shortcuts never hide an entry in the range** -/
theorem C13_range_shortcuts_sound (es : List Ent) (hs : sortedEnts es = true) (f l e : Ent)
    (hf : es.head? = some f) (hl : es.getLast? = some l) (he : e ∈ es) (lo hi : Bnd)
    (hin : inRange lo hi e = true) :
    isBeforeRange l.k.uk lo = false ∧ isAfterRange f.k.uk hi = false ∧
      overlapsRange f.k.uk l.k.uk lo hi = true := by
  simp only [inRange, Bool.and_eq_true] at hin
  have hb := isBeforeRange_of_satLower hin.1 (uk_le_of_ikLe (sorted_le_last hs hl e he))
  have ha := isAfterRange_of_satUpper hin.2 (uk_le_of_ikLe (sorted_head_le hs hf e he))
  exact ⟨hb, ha, by rw [overlapsRange, hb, ha]; rfl⟩

/-- non-vacuity: a two-partition, three-block layout with a version chain of one user key
spanning a block boundary and a separator in the gap is well-formed, and the gap lookup answers -/
def exLayout : Layout :=
  [ [ { sep := ⟨[97], 5⟩, ents := [⟨⟨[97], 9⟩, 0⟩, ⟨⟨[97], 5⟩, 1⟩], restarts := [0] },
      { sep := ⟨[98], 100⟩, ents := [⟨⟨[97], 2⟩, 2⟩, ⟨⟨[97], 0⟩, 3⟩], restarts := [0, 1] } ],
    [ { sep := ⟨[99, 255], 7⟩, ents := [⟨⟨[99], 4⟩, 4⟩, ⟨⟨[99, 255], 7⟩, 5⟩], restarts := [0] } ] ]

example : layoutWF exLayout = true ∧ tblGet exLayout [97] 4 = some ⟨⟨[97], 2⟩, 2⟩ ∧
    tblGet exLayout [98] 50 = none ∧ tblSeek exLayout ⟨[98], 50⟩ = 4 ∧
    ({ L := exLayout, lo := .unb, hi := .incl [97], maxSeq := 1000 } : TblCtx).seekLast = { pos := some 3 } := by
  decide
