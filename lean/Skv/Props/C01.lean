import Skv.Lemmas.Compact
import Skv.Lemmas.BeginRace
/-!
# C01 — transactions read from a stable snapshot (read side of snapshot isolation)

What is proved (for every key history, every set of registered snapshots, every configuration):
* per-key compaction never changes what a registered snapshot reads (`C01_compaction_stable`);
* the counted snapshot tracker keeps a sequence number registered exactly as long as some reader
  registered at it is alive, however many readers share it (`C01_tracker_covers_live_readers`);
* commits made after a reader began are invisible to it (`C01_later_commits_invisible`);
* the component search (memtables, then tables) returns the newest visible version whenever the
  components are ordered newest first (`C01_component_search_newest`).
The tie to the code: the per-key rule is compared with the real `CompactionIterator` on every input
of up to 3 (quick) / 4 (thorough) versions and every snapshot subset; whole histories with readers
sharing start points and rotation / flush / compaction / reopen placements are compared with the map
specification on a real `Tree`.
-/

/-- the value a reader at horizon `s` gets for a key whose versions (newest first) are `vs` -/
def readAt (s : Nat) (vs : List Ver) : Option Ver := topValue (visOf (some s) vs)

/-- **Compaction is invisible to registered readers.** For every reader whose horizon `s` is in the
snapshot list handed to the compaction, the value it reads for the key is the same before and
after — at every level including the last one, with or without versioning / retention, whatever
the other snapshots are. -/
theorem C01_compaction_stable (c : CCfg) (snaps : List Nat) (vs : List Ver)
    (hs : SortedAsc snaps) (hsd : SortedDesc vs) (s : Nat) (hmem : s ∈ snaps) :
    readAt s (compactKey c snaps vs) = readAt s vs :=
  compactKey_topValue hs hsd (some s) fun _ h => Option.some.inj h ▸ hmem

/-- versions committed after the reader began (seq above its horizon) do not change its read -/
theorem C01_later_commits_invisible {s : Nat} {newer : List Ver} (hn : ∀ v ∈ newer, s < v.seq) (vs : List Ver) :
    readAt s (newer ++ vs) = readAt s vs := by
  unfold readAt visOf
  have : newer.filter (fun v => decide (v.seq ≤ s)) = [] := by
    rw [List.filter_eq_nil_iff]; intro v hv; have := hn v hv; simp; omega
  simp only [List.filter_append, this, List.nil_append]

/-! ### the snapshot tracker (counted registrations — the `fix:` commit)

The tracker is a multiset of sequence numbers (the code stores it as `seq ↦ count`);
`get_all_snapshots` returns its distinct elements. -/

abbrev Tracker := List Nat
def Tracker.register (t : Tracker) (s : Nat) : Tracker := s :: t
def Tracker.unregister (t : Tracker) (s : Nat) : Tracker := t.erase s

inductive REv
  | openR (id seq : Nat)      -- `Snapshot::new`: register
  | closeR (id : Nat)         -- `Drop for Snapshot`: unregister the reader's own sequence number
deriving Repr

structure RState where
  live : List (Nat × Nat) := []      -- (reader id, seq)
  tracker : Tracker := []

def RState.step (st : RState) : REv → RState
  | .openR id s => { live := (id, s) :: st.live, tracker := st.tracker.register s }
  | .closeR id =>
    match st.live.find? (fun p => p.1 == id) with
    | some p => { live := st.live.erase p, tracker := st.tracker.unregister p.2 }
    | none => st

def RState.run (st : RState) : List REv → RState
  | [] => st
  | e :: es => RState.run (st.step e) es

theorem map_erase_perm {α β : Type} [BEq α] [LawfulBEq α] [BEq β] [LawfulBEq β] (f : α → β) {l : List α} {p : α}
    (hp : p ∈ l) : ((l.erase p).map f).Perm ((l.map f).erase (f p)) := by
  simpa using (((List.perm_cons_erase hp).map f).erase (f p)).symm

/-- the tracker always holds exactly the multiset of the live readers' sequence numbers -/
theorem tracker_perm_live {st : RState} (h : st.tracker.Perm (st.live.map (·.2))) (evs : List REv) :
    (st.run evs).tracker.Perm ((st.run evs).live.map (·.2)) := by
  induction evs generalizing st with
  | nil => exact h
  | cons e es ih =>
    apply ih
    cases e with
    | openR id s => exact List.Perm.cons s h
    | closeR id =>
      simp only [RState.step]
      cases hf : st.live.find? (fun p => p.1 == id) with
      | none => exact h
      | some p =>
        have hp : p ∈ st.live := List.mem_of_find?_eq_some hf
        exact (h.erase p.2).trans (map_erase_perm (·.2) hp).symm

/-- **A live reader is always tracked**, however many readers share its sequence number and in
whatever order the others begin and finish: compaction always receives its horizon. -/
theorem C01_tracker_covers_live_readers (evs : List REv) (id s : Nat)
    (hlive : (id, s) ∈ (RState.run {} evs).live) : s ∈ (RState.run {} evs).tracker := by
  have h := tracker_perm_live (st := {}) (.refl _) evs
  exact h.symm.subset (List.mem_map.mpr ⟨(id, s), hlive, rfl⟩)

/-- `Snapshot::get` per key: components in search order (active memtable, immutables newest first,
L0 newest first, then one table per deeper level); the first component holding a visible version
answers -/
def physGet (s : Nat) (comps : List (List Ver)) : Option Ver :=
  comps.findSome? (fun c => topOf s c)

theorem physGet_eq_flatten (s : Nat) (comps : List (List Ver)) : physGet s comps = topOf s comps.flatten :=
  List.find?_flatten.symm

/-- **The component search returns the newest visible version** whenever the components are ordered
newest first (which rotation, flush and compaction maintain): it is visible, and no visible version
anywhere is newer. -/
theorem C01_component_search_newest (s : Nat) (comps : List (List Ver)) (hsd : SortedDesc comps.flatten)
    (t : Ver) (ht : physGet s comps = some t) :
    t.seq ≤ s ∧ t ∈ comps.flatten ∧ ∀ u ∈ comps.flatten, u.seq ≤ s → u.seq ≤ t.seq :=
  topOf_newest hsd (physGet_eq_flatten s comps ▸ ht)

/-- **a reader is never missed by a running compaction.**  With the begin that reads the visible sequence
number and registers the snapshot in one step under the tracker's lock (which the capture takes too), in every
interleaving of commits, begins and captures: every reader registered after a compaction's capture has a
sequence number not older than the visible one at that capture — it reads the newest versions the compaction
keeps; readers registered before it are in the captured list. -/
theorem C01_begin_atomic_with_capture (ops : List BOp) (ha : ∀ op ∈ ops, atomicOp op = true) :
    (BR.run {} ops).safe := (binv_run binv_init ops ha).safe

/-- non-vacuity: a commit, a capture, a begin, another commit, another begin -/
example : (BR.run {} [.commit, .capture, .beginAtomic, .commit, .beginAtomic]).lateReaders = [2, 1] := rfl

/-- the repaired defect: the two steps of the old begin around a commit and a capture — the reader (sequence
number 0) is not in the captured list and is older than the capture (visible 1): the compaction drops the
version it is about to read (in the real store: `get` returned nothing for a key that had a value at the
reader's snapshot) -/
theorem fixed_begin_raced_with_compaction_capture :
    let s := BR.run {} [.load, .commit, .capture, .register]
    s.captured = some ([], 1) ∧ s.lateReaders = [0] ∧ ¬ s.safe := by
  refine ⟨by decide, by decide, ?_⟩
  intro h
  simp [BR.safe, BR.run, BR.step, BR.reg] at h
