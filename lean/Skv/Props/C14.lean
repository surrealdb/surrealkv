import Skv.Lemmas.Restore
import Skv.Lemmas.RestoreIdx
/-!
# C14 — checkpoint and restore reproduce the checkpointed state

Model: `RStore` — immutable table files named by ids from a counter, a block cache keyed by
(table id, offset) that is never invalidated on table deletion, `checkpoint` (files + counter),
`restore` (files and counter replaced, cache cleared after the repair), and the detached WAL
clean-up of a flush.  Specification of the contents (the checkpoint holds the committed state,
restore brings it back, the checkpoint directory opens standalone) is the key-value map of the
correspondence driver.
Proved: cache coherence — every cached block of an existing table is that table's block, all ids
below the counter — is an invariant of table writes, deletions, reads and of the REPAIRED restore,
for every checkpoint and history (`C14_cache_coherent`), and under coherence every read returns
the block of the file that is there now (`C14_read_after_restore`); the late clean-up never removes
a segment the current manifest needs (`C14_cleanup_keeps_needed`).  Kernel-checked witnesses show
what the code did before the three repairs (stale block served under a reused id; live segment
deleted).  With versioning and the B+tree version index (`VStore`: value log, index entries pointing into
it, sequence counter): after any history of versioned writes, checkpoints and restores the history of
every key is the one of the specification log, and the checkpoint opened standalone lists the
checkpointed history (`C14_history_after_restore`, `C14_checkpoint_dir_history`); before the repair the
open index of the discarded timeline stayed and the checkpoint had none
(`fixed_restore_kept_the_discarded_index`).  The value-log reload and the sequence / oracle reset are
validated by the stream only.
-/

inductive RAct
  | write (blocks : List Nat) | delete (id : Nat) | read (id off : Nat) | restore (c : Ckpt)

def RStore.act (s : RStore) : RAct → RStore
  | .write b => s.writeTable b
  | .delete id => s.deleteTable id
  | .read id off => (s.readBlock id off).1
  | .restore c => s.restore c true

def ckptOk (c : Ckpt) : Prop := ∀ f ∈ c.files, f.1 < c.nextId

/-- coherence is an invariant for every history (restores from any well-formed checkpoint included) -/
theorem C14_cache_coherent (acts : List RAct) (s : RStore) (h : s.coherent)
    (hc : ∀ a ∈ acts, ∀ c, a = .restore c → ckptOk c) : (acts.foldl RStore.act s).coherent :=
  List.foldlRecOn acts _ h fun s h a ha => by
    cases a with
    | write b => exact h.writeTable b
    | delete id => exact h.deleteTable id
    | read id off => exact h.readBlock id off
    | restore c => exact coherent_restore_clear s (hc _ ha c rfl)

/-- after any such history a read of an existing table returns what the file holds now — never a
block cached from a discarded timeline -/
theorem C14_read_after_restore (acts : List RAct) (hc : ∀ a ∈ acts, ∀ c, a = .restore c → ckptOk c)
    (id off b : Nat) :
    let s := acts.foldl RStore.act {}
    s.file id ≠ none → (s.readBlock id off).2 = some b → s.truth id off = some b := by
  intro s hx hr
  exact (C14_cache_coherent acts {} coherent_init hc).readBlock_eq_truth hx off ▸ hr

/-- a checkpoint taken from a coherent store is well-formed -/
theorem C14_checkpoint_wellformed (s : RStore) (h : s.coherent) : ckptOk s.checkpoint := h.2

theorem C14_cleanup_keeps_needed (segs : List Nat) (scheduled logNumber s : Nat) (hs : s ∈ segs)
    (hn : logNumber ≤ s) : s ∈ cleanupSegments segs (min scheduled logNumber) :=
  List.mem_filter.mpr ⟨hs, decide_eq_true (Nat.le_trans (Nat.min_le_right _ _) hn)⟩

/-- before the repair: a block of the discarded timeline is served under a reused table id -/
theorem C14_witness_stale_block :
    let s0 : RStore := {}
    let ck := s0.checkpoint
    let s1 := s0.writeTable [111]
    let s2 := (s1.readBlock 1 0).1
    let s3 := s2.restore ck false
    let s4 := s3.writeTable [222]
    (s4.readBlock 1 0).2 = some 111 ∧ s4.truth 1 0 = some 222 := by decide

/-- before the repair: the clean-up scheduled before the restore deletes the restored store's live segment -/
theorem C14_witness_late_cleanup : (3 : Nat) ∉ cleanupSegments [3] 5 := by decide


/-- **history after restore.**  After any history of versioned writes, checkpoints and restores, the
history of every key, read through the index and the value log, is the history of the specification
(a log of versions; restore puts the remembered log back): every version resolves, none of the discarded
timeline is listed. -/
theorem C14_history_after_restore (acts : List VAct) (k : Nat) :
    (acts.foldl (VStore.act true) {}).history k = specHist (acts.foldl ASpec.act {}).log k :=
  (rel_run rel_init acts).1.history k

/-- **the checkpoint directory opened as a database** lists, for every key, the history remembered by the
specification at the checkpoint -/
theorem C14_checkpoint_dir_history (acts : List VAct) (k : Nat) (ck : VCk)
    (hck : (acts.foldl (VStore.act true) {}).saved = some ck) :
    ∃ l, (acts.foldl ASpec.act {}).saved = some l ∧ ck.history k = specHist l k := by
  have h := (rel_run rel_init acts).2
  rw [hck] at h
  generalize (acts.foldl ASpec.act {}).saved = sv at h ⊢
  cases h with
  | some hix hsh => exact ⟨_, rfl, by rw [VCk.history, hix]; exact hsh.history k⟩

/-- non-vacuity: a history with a write after the checkpoint and one after the restore -/
example : (([.put 1 10, .checkpoint, .put 1 20, .put 2 30, .restore, .put 3 40] : List VAct).foldl (VStore.act true) {}).history 1
    = [some 10] := by decide

/-- the repaired defect: the checkpoint had no index file and the restore kept the open index of the
discarded timeline; after the restore and one more commit the pointer of the discarded version of key 1
resolves into the value written for key 3 (in the code: the record's header does not match and the read
fails), and the checkpoint opened standalone lists nothing -/
theorem fixed_restore_kept_the_discarded_index :
    let acts : List VAct := [.put 1 10, .checkpoint, .put 1 20, .put 2 30, .restore, .put 3 40]
    let s := acts.foldl (VStore.act false) {}
    s.history 1 = [some 40, some 10] ∧ specHist (acts.foldl ASpec.act {}).log 1 = [some 10] ∧
    (s.saved.map (fun c => c.history 1)) = some [] := by decide
