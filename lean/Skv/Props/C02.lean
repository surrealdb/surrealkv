import Skv.Lemmas.Durable
import Skv.Props.C12
/-!
# C02 — acknowledged commits survive crashes
# C03 — crash recovery is atomic and prefix-consistent
# C07 — the store can always reopen what it wrote   (record-level durable-state machine)

Model: `DState.step` (WAL append / memtable apply + acknowledge / rotation / flush with manifest
`log_number` / asynchronous WAL clean-up) and `DState.recover` (tables plus every record of every
existing segment at or above `log_number`), at the granularity of whole batch records.  That a
record is read back whole or not at all, that a torn tail is cut off by repair and that appends
after reopening are readable is C12 (`C12_roundtrip`, `C12_repair_reads_back`,
`C12_append_after_repair`).  Crash model proved here: process crash (every completed write is kept)
at every operation boundary of every run.  Power loss (unsynced data lost) is not modelled: partial.
Hypothesis of the `_partial` theorems: `noStraddle` — no memtable rotation between a batch's WAL
append and the end of its apply; the excluded family is a known finding with a kernel-checked witness.
-/

/-- **C02 (process crash, partial: no straddle).** After any run of commits, rotations, flushes
and WAL clean-ups, every acknowledged batch is in what recovery rebuilds. -/
theorem C02_acked_survive_process_crash_partial (ops : List DOp) (hns : noStraddle false ops = true)
    (b : Nat) (hb : b ∈ (DState.run {} ops).acked) : b ∈ (DState.run {} ops).recover :=
  DState.mem_recover.mpr ((DInv.reach ops hns).safe b ((Shape.reach ops).ackLt b hb))

/-- **C03 (prefix consistency, partial: no straddle).** What recovery rebuilds is exactly the set
of batches whose WAL record was written — a prefix of the commit order that contains every
acknowledged batch and at most one unacknowledged (in-flight) batch; nothing else appears. -/
theorem C03_recovered_is_prefix_partial (ops : List DOp) (hns : noStraddle false ops = true) (b : Nat) :
    b ∈ (DState.run {} ops).recover ↔ b < (DState.run {} ops).next :=
  ⟨(Shape.reach ops).recover_lt, fun hb => DState.mem_recover.mpr ((DInv.reach ops hns).safe b hb)⟩

theorem C03_unacked_at_most_one_partial (ops : List DOp) (hns : noStraddle false ops = true) (b : Nat)
    (hb : b < (DState.run {} ops).next) :
    b ∈ (DState.run {} ops).acked ∨ (DState.run {} ops).pending = some b :=
  (DInv.reach ops hns).ackedOrPending b hb

/-- **C07 (sequence floor).** Everything recovered is below the next batch number: commits made
after reopening are ordered after everything recovered. -/
theorem C07_recovered_below_next_partial (ops : List DOp) (hns : noStraddle false ops = true) (b : Nat)
    (hb : b ∈ (DState.run {} ops).recover) : b < (DState.run {} ops).next :=
  (C03_recovered_is_prefix_partial ops hns b).mp hb

/-- **C07 (idempotence).** Recovery reads the durable state without changing which records are
eligible: cleaning up the WAL afterwards (as the reopened store does) and recovering again gives
the same set of batches. -/
theorem C07_recover_after_cleanup (d : DState) (b : Nat) :
    b ∈ (d.step .cleanupWal).recover ↔ b ∈ d.recover := by
  simp only [DState.mem_recover, DState.step, List.mem_filter, decide_eq_true_eq, and_assoc, and_self_left]

/-- witness of the excluded family (known finding `batch-straddles-rotation`): the record of batch 0
goes to segment 0, a rotation happens before its apply, the old memtable is flushed
(`log_number = 1`) — batch 0 is acknowledged and gone from what recovery rebuilds. -/
theorem finding_straddle :
    let d := DState.run {} [.walAppend, .rotate, .applyAck, .flushOldest]
    d.acked = [0] ∧ d.recover = [] := by decide


/-! ## after the repairs `3449869` and `0919665`: no hypothesis on where rotations fall

`D2` (Skv/Model/Durable2.lean) is the same machine with the batch logged again when its apply lands in
a memtable of a later segment, and with a recovery that may split the last segment between a table and
the new active memtable.  The theorems below quantify over EVERY run: rotations may fall between a
batch's WAL append and its apply. -/

/-- **C02 (process crash).** After any run of commits, rotations (wherever they fall), flushes and WAL
clean-ups, every acknowledged batch is in what recovery rebuilds. -/
theorem C02_acked_survive_process_crash (ops : List DOp) (b : Nat) (hb : b ∈ (D2.run {} ops).acked) :
    b ∈ (D2.run {} ops).recover :=
  acked_recoverable (.reach2 ops) (Inv2.reach ops) hb

/-- **C02 (crash, reopen, crash again).** Recovery itself keeps everything recoverable, wherever it has
to cut the last segment between a table and the new active memtable. -/
theorem C02_acked_survive_reopen (ops : List DOp) (k : Nat) (b : Nat) (hb : b ∈ (D2.run {} ops).acked) :
    b ∈ ((D2.run {} ops).reopen false k).recover :=
  (D2.mem_recover_reopen _ k b).mpr (C02_acked_survive_process_crash ops b hb)

/-- **C03 (nothing else appears).** What recovery rebuilds are batches whose WAL record was written, and
of those at most one is unacknowledged (the batch in flight). -/
theorem C03_recovered_only_written (ops : List DOp) (b : Nat) (hb : b ∈ (D2.run {} ops).recover) :
    b ∈ (D2.run {} ops).acked ∨ (D2.run {} ops).pending = some b :=
  (Shape.reach2 ops).ackedOrPending b ((Shape.reach2 ops).recover_lt hb)

/-- the defect repaired by `0919665`, kernel-checked: two acknowledged batches in one segment; recovery
flushes the first to a table and records the segment as flushed — the second is gone at the next crash -/
theorem fixed_recovery_retired_a_split_segment :
    let d := D2.run {} [.walAppend, .applyAck, .walAppend, .applyAck]
    d.acked = [0, 1] ∧ (d.reopen true 1).recover = [0] ∧ (d.reopen false 1).recover = [0, 0, 1] := by decide

/-- non-vacuity: a rotation between append and apply, then the flush of the rotated memtable and the WAL
clean-up — the batch is still recovered, from its second record -/
example :
    let d := D2.run {} [.walAppend, .rotate, .applyAck, .flushOldest, .cleanupWal]
    d.acked = [0] ∧ d.recover = [0] ∧ d.segs = [(1, [0])] := by decide


/-- **C07 (opening repeatedly yields the same contents).** A reopen — also one that is itself cut short by a
crash after it flushed the first `k` replayed records of the last segment — changes nothing in what the next
recovery rebuilds: nothing is lost and nothing is added. -/
theorem C07_reopen_same_contents (ops : List DOp) (k : Nat) (b : Nat) :
    b ∈ ((D2.run {} ops).reopen false k).recover ↔ b ∈ (D2.run {} ops).recover :=
  D2.mem_recover_reopen _ k b


/-- **C07 (new commits are ordered after everything recovered).** For every run — rotations wherever they
fall — everything recovery rebuilds lies below the next batch number, so a commit made after reopening is
never shadowed by recovered data. -/
theorem C07_recovered_below_next (ops : List DOp) (b : Nat) (hb : b ∈ (D2.run {} ops).recover) :
    b < (D2.run {} ops).next :=
  (Shape.reach2 ops).recover_lt hb
