import Skv.Lemmas.PipeOk
import Skv.Lemmas.LockOrder
import Skv.Lemmas.Stall
import Skv.Lemmas.BgWork
import Skv.Lemmas.TaskStop
import Skv.Model.Consts
/-!
# C17 — commits and shutdown always complete; no internal queue overflows

Model: the commit-pipeline transition system of `Skv/Model/Pipeline.lean` including every failure
branch (conflict, WAL error, apply error after a prefix) and the permit-with-batch flow control of
the `fix:` commit.  Statements hold for every number of threads and every interleaving.
Liveness under the real tokio scheduler is outside the model (partial; see DESIGN.md).
-/
open PState

/-- **The commit queue never overflows** — for every thread count and interleaving, failures
included: the `panic!("commit queue overflow")` branch is unreachable and the queue never holds
more batches than there are permits. -/
theorem C17_queue_never_overflows (n gc p c : Nat) (hpc : p ≤ c) (ops : List POp) :
    let s := (PState.initWith n gc p c).run ops
    s.panicked = false ∧ s.queue.length ≤ p := by
  have h := pipeOk_run n gc hpc ops
  have := queue_length_le h.pinv h.perm.qown
  have := h.perm.bound
  exact ⟨h.np, by omega⟩

/-- the permits of the real pipeline do not exceed its ring size (regenerated from src/commit.rs) -/
theorem C17_consts_ok : Consts.commitPermits ≤ Consts.maxConcurrentCommits := by decide

/-- the schedule that overflowed the ring before the `fix:` commit (one slow apply, then failing
commits) now ends without panic: the 7th failing committer simply has to wait for a permit -/
def overflowRun : List POp :=
  [.begin 0 { keys := [0] }, .step 0, .step 0] ++
  (List.replicate 8 [POp.begin 1 { keys := [1], failWal := true }, .step 1, .step 1, .step 1]).flatten

theorem C17_fixed_overflow_schedule :
    let s := (PState.initWith 2 1024 7 8).run overflowRun
    s.panicked = false ∧ s.queue.length = 7 ∧ s.permits = 0 := by decide

/-- **C17 (the commit pipeline never deadlocks).** In every reachable state — any number of
committers, any interleaving, any pattern of conflicts, WAL failures and apply failures — as long as
some `commit()` call is in progress, some thread can take a step that changes the state: no set of
calls wait for each other (for a permit, for the head of the queue, for a completion) for ever. -/
theorem C17_pipeline_progress (n gc p c : Nat) (hp : 0 < p) (hpc : p ≤ c) (ops : List POp)
    (hbusy : ∃ (i : Nat) (t : Thread), ((PState.initWith n gc p c).run ops).threads[i]? = some t ∧ t.pc ≠ .ready) :
    ∃ i, ((PState.initWith n gc p c).run ops).stepThread i ≠ (PState.initWith n gc p c).run ops :=
  (pipeOk_run n gc hpc ops).progress hp hbusy

/-- non-vacuity: two committers, the second one's batch applied first; after the steps below thread 1
waits for its completion while thread 0 is about to publish — a call is in progress and a step exists -/
example :
    let s := (PState.initWith 2 1024 7 8).run
      [.begin 0 { keys := [1] }, .begin 1 { keys := [2] }, .step 0, .step 0, .step 1, .step 1, .step 1, .step 1, .step 1, .step 1]
    (s.threads.map (fun t => t.pc.gate)) = ["apply_entry:0", "idle"] ∧ s.queue.length = 2 ∧
      (s.stepThread 0).threads.map (fun t => t.pc.gate) ≠ s.threads.map (fun t => t.pc.gate) := by decide


/-- **C17 (bounded work).** From any reachable state, with no new calls arriving, no schedule can
take more than `measure` state-changing steps: threads cannot keep each other busy for ever
(no livelock), whatever the interleaving. -/
theorem C17_effective_steps_bounded (n gc p c : Nat) (hpc : p ≤ c) (ops : List POp) (sched : List Nat)
    (h : allEffective ((PState.initWith n gc p c).run ops) sched) :
    sched.length ≤ ((PState.initWith n gc p c).run ops).measure :=
  (pipeOk_run n gc hpc ops).bounded sched h

/-- **C17 (every call returns).** From any reachable state there is a schedule — in fact every
schedule that keeps choosing a thread that can move is one, by the two theorems above — after which
every `commit()` call in progress has returned. -/
theorem C17_all_calls_return (n gc p c : Nat) (hp : 0 < p) (hpc : p ≤ c) (ops : List POp) :
    ∃ sched : List Nat, allEffective ((PState.initWith n gc p c).run ops) sched ∧
      ∀ t ∈ (((PState.initWith n gc p c).run ops).runSched sched).threads, t.pc = .ready :=
  (pipeOk_run n gc hpc ops).all_return hp


/-! ## store level: nested locks of readers, flush, rotation and compaction

`opIter`, `opFlush`, `opRotate`, `opCompact` are the nested lock sections of
`Snapshot::collect_iter_state_from`, `CoreInner::flush_immutable_to_sst`, `CoreInner::rotate_memtable`
and `Compactor::update_manifest`, `opCommit` that of `LsmCommitEnv::apply`, `opRotFlush` a rotation followed by
the flushes it leaves pending (ids 0 = active_memtable, 1 = level_manifest, 2 = immutable_memtables).
For any number of threads each running any disciplined operation: no circular wait exists in any
state (`C17_no_circular_wait`), so as long as a thread is unfinished one of them can move
(`C17_lock_progress`); the six operations of the code are disciplined (`C17_ops_disciplined`, a
finite check over the hand-written table, which the correspondence stream compares with the
acquisition order observed at the yield points of the real operations under every interleaving). -/

theorem C17_no_circular_wait (s : LSys) (hr : ∀ t ∈ s, disciplined t.prog = true) (S : List Nat) (hne : S ≠ [])
    (hS : ∀ i ∈ S, ∃ (t : LThread) (r : LReq), s[i]? = some t ∧ t.next = some r ∧
      ∃ j ∈ S, ∃ (u : LThread) (h : LReq), s[j]? = some u ∧ h ∈ u.held ∧ h.lock = r.lock) : False := by
  -- the member `i` waiting for the highest lock waits for a lock held by a member `j`, which then waits for a higher one
  obtain ⟨i, hi, hmax⟩ := exists_max (wanted s) hne
  obtain ⟨t, r, ht, hnext, j, hj, u, h, hu, hheld, hlock⟩ := hS i hi
  obtain ⟨u', r', hu', hnext', -⟩ := hS j hj
  cases hu.symm.trans hu'
  have hlt := u.held_lt_next (hr u (List.mem_of_getElem? hu)) hheld hnext'
  have := hmax j hj
  rw [wanted_eq ht hnext, wanted_eq hu hnext'] at this
  omega

theorem C17_lock_progress (s : LSys) (hr : ∀ t ∈ s, disciplined t.prog = true)
    (hlive : ∃ (i : Nat) (t : LThread), s[i]? = some t ∧ t.done = false) :
    ∃ (i : Nat) (t : LThread), s[i]? = some t ∧ t.done = false ∧ blocked s i = false := by
  -- otherwise every unfinished thread is blocked, and the blocked threads are a set in which everybody waits
  -- for a member
  refine Classical.byContradiction fun hno => ?_
  have hall : ∀ i t, s[i]? = some t → t.done = false → i ∈ (List.range s.length).filter (blocked s) := by
    intro i t ht hd
    refine List.mem_filter.mpr ⟨List.mem_range.mpr (List.getElem?_eq_some_iff.mp ht).1, ?_⟩
    cases hb : blocked s i with
    | true => rfl
    | false => exact absurd ⟨i, t, ht, hd, hb⟩ hno
  obtain ⟨i0, t0, ht0, hd0⟩ := hlive
  refine C17_no_circular_wait s hr _ (List.ne_nil_of_mem (hall i0 t0 ht0 hd0)) fun i hi => ?_
  obtain ⟨t, r, ht, hn, j, -, u, h, hu, hh, hl⟩ := blocked_has_holder (List.mem_filter.mp hi).2
  refine ⟨t, r, ht, hn, j, hall j u hu ?_, u, h, hu, hh, hl⟩
  -- `LThread.held` is `[]` for a finished thread, so the holder `j` is unfinished
  cases hdone : u.done with
  | false => rfl
  | true => simp [LThread.held, hdone] at hh

theorem C17_ops_disciplined :
    disciplined opIter = true ∧ disciplined opFlush = true ∧ disciplined opRotate = true ∧
      disciplined opCompact = true ∧ disciplined opCommit = true ∧ disciplined opRotFlush = true := by decide

/-- a committer inside `apply` keeps the rotation out: while thread 0 sits between taking the active
memtable's read lock and dropping it, thread 1's rotation (which needs the write lock) cannot start — the
memtable a batch is being added to is not the one being rotated away and flushed -/
theorem C17_apply_excludes_rotation :
    let s : LSys := [{ prog := opCommit, pc := 1 }, { prog := opRotFlush, pc := 0 }]
    blocked s 1 = true ∧ ((s.step 1)[1]?.map (·.pc)) = some 0 := by decide

/-- the order used before the repair (immutable memtables before the manifest in the reader) is not
disciplined, and with it a reader and a compaction reach a state in which both are blocked -/
theorem C17_old_reader_order_deadlocks :
    let old : List LAct := [.acq ⟨0, .rd⟩ true, .acq ⟨2, .rd⟩ true, .acq ⟨1, .rd⟩ true]
    disciplined old = false ∧
      (let s : LSys := [{ prog := old, pc := 2 }, { prog := opCompact, pc := 1 }]
       blocked s 0 = true ∧ blocked s 1 = true) := by decide


/-! ## write-stall wait (src/stall.rs): no lost wake-up -/

/-- **C17 (no lost wake-up).** In every interleaving of any number of committers inside
`WriteStallController::check` with the background work that raises and clears the stall condition, the
shutdown flag, and the `notify_waiters` calls: whenever a committer is blocked in `notified.await` and
no signal is owed (every clearing and every shutdown-flag store has been followed by its
`notify_waiters`), the stall condition really holds and the store is not shutting down.  So a committer
never sleeps through the signal that was meant for it. -/
theorem C17_no_lost_wakeup (ops : List SOp) (i : Nat)
    (hb : (SState.run {} ops).blocked i = true) (hq : (SState.run {} ops).owed = 0) :
    (SState.run {} ops).stalled = true ∧ (SState.run {} ops).shutdown = false := by
  have h := sinv_run sinv_init ops
  unfold SState.blocked at hb
  split at hb
  next g hp =>
    rcases (h.ok hp).2 with h1 | h1 | h1
    · simp [h1] at hb
    · omega
    · exact h1
  next g hp => exact (h.ok hp).elim
  next => cases hb

/-- a waiting committer is released by the next signal, whatever else happened since it registered -/
theorem C17_signal_releases (ops : List SOp) (i g : Nat) (hp : (SState.run {} ops).phase i = .decided g) :
    (((SState.run {} ops).step .signal).step (.await i)).phase i = .idle := by
  have hlt : g < (SState.run {} ops).gen + 1 := Nat.lt_succ_of_le ((sinv_run sinv_init ops).ok hp).1
  rw [SState.step_await (s := (SState.run {} ops).step .signal) hp hlt]
  exact if_pos rfl

/-- once released it re-reads the state: it returns `Ok` when the condition is clear and the store is open,
and `Err(PipelineStall)` when the store is shutting down -/
theorem C17_released_committer_returns (s : SState) (i : Nat) (hp : s.phase i = .idle) :
    (((s.step (.register i)).step (.read i)).phase i =
      if s.shutdown then .returned false else if !s.stalled then .returned true else .decided s.gen) := by
  cases hs : s.shutdown <;> cases hst : s.stalled <;> simp [SState.step, hp, hs, hst]

/-- the variant that creates the `Notified` future only when it has decided to wait does lose the
wake-up: stall, committer 0 reads "stalled", the flush clears and signals, the committer then waits —
blocked with the condition clear and no signal owed. -/
theorem C17_late_registration_loses_wakeup :
    let s := SState.runLate {} [.stall, .register 0, .read 0, .clear, .signal, .await 0]
    s.blocked 0 = true ∧ s.owed = 0 ∧ s.stalled = false := by decide

/-- non-vacuity: in the code as written the same schedule releases the committer, which then returns -/
example :
    let s := SState.run {} [.stall, .register 0, .read 0, .clear, .signal, .await 0, .register 0, .read 0]
    s.blocked 0 = false ∧ s.phase 0 = .returned true := by decide
example : (SState.run {} [.stall, .register 0, .read 0, .await 0]).blocked 0 = true := by decide


/-! ## the work that ends an L0 stall is always scheduled -/

/-- **C17 (a stalled writer is never left without a compaction on its way).** With a foreground flush
(checkpoint) notifying the level-compaction task like the background flush task does, in every
reachable state in which writers stall on the number of L0 tables the compaction has been notified;
and the run it triggers ends the stall. -/
theorem C17_stall_has_work_scheduled (ops : List BgOp) (s0 : BgState) (h0 : s0.l0 = 0) (ht : 0 < s0.trigger)
    (hts : s0.trigger ≤ s0.stallAt) (hst : (s0.run true ops).stalled = true) :
    (s0.run true ops).scheduled = true ∧ ((s0.run true ops).step true .compactRun).stalled = false :=
  bginv_stalled (bginv_run (bginv_init h0 ht hts) ops) hst

/-- before the fix a checkpoint did not notify the compaction task: twelve checkpoints in a row leave the
writers stalled with no compaction scheduled (kernel-checked witness; replayed on the real store by the
`bgwork` stream) -/
theorem C17_checkpoints_without_wake_stall_for_good :
    let s := ({} : BgState).run false (List.replicate 12 .fgFlush)
    s.stalled = true ∧ s.scheduled = false ∧ (s.step false .compactRun).stalled = true := by decide


/-! ## close(): the background tasks exit

`TaskManager::stop` (called by `close()`) sets the stop flag, wakes both tasks with the permit-storing
`notify_one`, waits until neither reports `running`, and joins their handles.  The join returns because each
task exits whatever it was doing when the stop arrived — parked, busy with a flush or compaction round,
or not yet polled — and whatever further wake-ups (commits, flushes, other `notify_one` / `notify_waiters`
calls) arrive meanwhile (the task model and its theorem are shared with C19). -/
theorem C17_close_stops_background_tasks (memtableTask levelTask : TState) (ops1 ops2 : List TOp) :
    (((memtableTask.step .setStop).step .notifyOne).run ops1).settle.phase = .exited ∧
    (((levelTask.step .setStop).step .notifyOne).run ops2).settle.phase = .exited :=
  ⟨task_exits_after_stop memtableTask ops1, task_exits_after_stop levelTask ops2⟩
