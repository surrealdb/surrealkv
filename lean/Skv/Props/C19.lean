import Skv.Lemmas.Lock
import Skv.Lemmas.TaskStop
/-!
# C19 — one live instance per database directory

Model: `LState.step` over the interleaved micro-steps of any number of openers, in one process or
several.  All theorems quantify over every interleaving (`ops : List LOp` arbitrary) — open racing
with close, with another open, with a crash.  What ties the step order inside the real `open` / `close` to the
model's phases (lock acquired before the first touch, released after the last) is the trace check
of the correspondence stream.  Not modelled: the behaviour of `flock(2)` itself (trusted: at most one
exclusive holder per file; released on close of the description and on process death).
-/

/-- **C19 (exclusion).** In every reachable state at most one opener is live — recovering, open
or still closing. -/
theorem C19_at_most_one_live (ops : List LOp) (i j : Nat)
    (hi : ((LState.run {} ops).phase i).live = true) (hj : ((LState.run {} ops).phase j).live = true) :
    i = j := by
  have h := linv_reachable ops
  exact Option.some.inj (((h.liveIff i).mp hi).symm.trans ((h.liveIff j).mp hj))

/-- **C19 (data touched only by the owner).** Every mutation of the directory in any run was made
by the opener that owned the lock at that moment. -/
theorem C19_touch_only_by_owner (ops : List LOp) (t : Nat × Option Nat)
    (ht : t ∈ (LState.run {} ops).touches) : t.2 = some t.1 :=
  (linv_reachable ops).touched t ht

/-- **C19 (refused open is pure).** While some other opener is live, an open attempt fails and
changes neither the data, nor the content of `LOCK`, nor the ownership. -/
theorem C19_refused_open_pure (ops : List LOp) (i j : Nat)
    (hi : (LState.run {} ops).phase i = .starting) (hj : ((LState.run {} ops).phase j).live = true) :
    let s := LState.run {} ops
    let s' := s.step (.tryLock i)
    s'.phase i = .refused ∧ s'.dataVer = s.dataVer ∧ s'.lockTxt = s.lockTxt ∧ s'.holder = s.holder ∧
      s'.touches = s.touches ∧ ∀ k, k ≠ i → s'.phase k = s.phase k := by
  intro s s'
  have : s' = s.setPhase i .refused := LState.step_tryLock_held hi (((linv_reachable ops).liveIff j).mp hj)
  rw [this]
  exact ⟨if_pos rfl, rfl, rfl, rfl, rfl, fun k hk => if_neg hk⟩

/-- a refused opener never becomes live without a new attempt: its later `touch` steps do nothing -/
theorem C19_refused_cannot_touch (s : LState) (i : Nat) (h : s.phase i = .refused) :
    s.step (.touch i) = s := by
  simp [LState.step, h, LPhase.live]

/-- **C19 (reopen after close).** When the owner finishes `close()`, the lock is free and the next
attempt by anyone succeeds. -/
theorem C19_reopen_after_close (ops : List LOp) (j i : Nat)
    (hj : (LState.run {} ops).phase j = .closing) (hi : (LState.run {} ops).phase i = .starting) (hij : i ≠ j) :
    (((LState.run {} ops).step (.release j)).step (.tryLock i)).phase i = .recovering := by
  rw [LState.step_release hj]
  exact reopen_after_drop (linv_reachable ops) hj rfl hi hij

/-- **C19 (reopen after crash / drop).** When the owner's process dies in any phase, the lock is
free and the next attempt succeeds. -/
theorem C19_reopen_after_crash (ops : List LOp) (j i : Nat)
    (hj : ((LState.run {} ops).phase j).live = true) (hi : (LState.run {} ops).phase i = .starting) (hij : i ≠ j) :
    (((LState.run {} ops).step (.crash j)).step (.tryLock i)).phase i = .recovering :=
  reopen_after_drop (linv_reachable ops) rfl hj hi hij

/-- **C19 (reopen after a failed open).** When `build()` fails after the lock was taken (recovery
error), the lock is free again and the next attempt is not refused. -/
theorem C19_reopen_after_failed_open (ops : List LOp) (j i : Nat)
    (hj : (LState.run {} ops).phase j = .recovering) (hi : (LState.run {} ops).phase i = .starting) (hij : i ≠ j) :
    (((LState.run {} ops).step (.failOpen j)).step (.tryLock i)).phase i = .recovering := by
  rw [LState.step_failOpen hj]
  exact reopen_after_drop (linv_reachable ops) hj rfl hi hij

/-- the lock is free whenever nobody is live (so an open can only be refused by a live store) -/
theorem C19_refused_only_by_live (ops : List LOp) (i : Nat)
    (hi : (LState.run {} ops).phase i = .starting)
    (hr : (((LState.run {} ops).step (.tryLock i)).phase i) = .refused) :
    ∃ j, j ≠ i ∧ ((LState.run {} ops).phase j).live = true := by
  cases hh : (LState.run {} ops).holder with
  | none => rw [LState.step_tryLock_free hi hh] at hr; simp at hr
  | some j =>
    have hl := ((linv_reachable ops).liveIff j).mpr hh
    refine ⟨j, ?_, hl⟩
    rintro rfl
    rw [hi] at hl; cases hl

/-- non-vacuity: opener 0 opens and starts closing, opener 1 is refused meanwhile, then succeeds
after the release. -/
example :
    let s := LState.run {} [.begin 0, .tryLock 0, .touch 0, .finishOpen 0, .beginClose 0, .touch 0,
      .begin 1, .tryLock 1]
    s.phase 0 = .closing ∧ s.phase 1 = .refused ∧ s.dataVer = 2 ∧
      ((s.run [.release 0, .begin 1, .tryLock 1]).phase 1 = .recovering) := by decide


/-! ## a store that goes away lets go of its background tasks (and with them of the directory lock)

The two background tasks hold a reference to the store core — its open files and the `LOCK` handle.
`TaskManager::stop` and `Drop for TaskManager` set the stop flag and call `notify_one`. -/

/-- **C19 (the tasks exit).** Whatever the task was doing when the flag was set and `notify_one` was
called — not yet polled, busy, parked — and whatever happens afterwards (more notifications, the task's own
steps), the task ends up exited once it has run: it cannot stay parked with the store core in its hands. -/
theorem C19_background_task_exits (s : TState) (ops : List TOp) :
    (((s.step .setStop).step .notifyOne).run ops).settle.phase = .exited :=
  task_exits_after_stop s ops

/-- the seeded change (`notify_waiters` in `Drop`), kernel-checked: a task that has not reached its first
`notified().await` yet misses the wake-up and parks for good, the flag set -/
theorem notify_waiters_misses_unparked_task :
    let s := ((({} : TState).step .setStop).step .notifyWaiters).settle
    s.phase = .parked ∧ s.stop = true ∧
      (((({} : TState).step .setStop).step .notifyOne).settle).phase = .exited := by decide
