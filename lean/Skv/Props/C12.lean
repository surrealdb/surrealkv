import Skv.Model.Consts
import Skv.Lemmas.WalTrunc
/-!
# C12 — commit log reads back as an exact prefix; repair keeps all valid records

Model: `addRecord`/`writeAll` (writer, `src/wal/writer.rs`), `readGo`/`readAll`
(reader, `src/wal/reader.rs`), `repair`, `appendSession`, `recoverAndAppend` (`src/wal/manager.rs`,
`src/wal/recovery.rs`) in `Skv/Model/Wal.lean`.  Everything is generic in the block size `B`
(`7 < B ≤ 65542`), the checksum function and the LZ4 codec.
-/

/-- **C12.1 round trip.** Every list of records (any sizes: empty payloads, lengths leaving 0..7
bytes before a block end, records spanning any number of blocks) written from the start of a
segment reads back byte-identical, in order, followed by a clean end-of-log. -/
theorem C12_roundtrip (P : Params) (rs : List Bytes) :
    readAll P (writeAll P 0 rs).1 = (rs, .eof) := wal_roundtrip P rs

/-- **C12.4 close / reopen.** Records appended after reopening a cleanly closed segment (the
writer resumes at `len mod B`) are read back after the earlier ones, for every session split. -/
theorem C12_resume (P : Params) (rs1 rs2 : List Bytes) :
    readAll P (appendSession P (writeAll P 0 rs1).1 rs2) = (rs1 ++ rs2, .eof) := by
  rw [appendSession_writeAll]
  exact wal_roundtrip P _

/-- three sessions (induction step made explicit: any number of sessions follows by repeating it) -/
theorem C12_resume_twice (P : Params) (rs1 rs2 rs3 : List Bytes) :
    readAll P (appendSession P (appendSession P (writeAll P 0 rs1).1 rs2) rs3)
      = (rs1 ++ rs2 ++ rs3, .eof) := by
  rw [appendSession_writeAll, appendSession_writeAll]
  exact wal_roundtrip P _

/-- repair of an undamaged segment is the identity on its records -/
theorem C12_repair_clean (P : Params) (rs : List Bytes) :
    readAll P (repair P (writeAll P 0 rs).1) = (rs, .eof) := by
  simp only [repair, wal_roundtrip]

/-- repair is idempotent on whatever it produced (any input bytes whatsoever) -/
theorem C12_repair_idempotent (P : Params) (file : Bytes) :
    repair P (repair P file) = repair P file := by
  simp only [repair, wal_roundtrip]

/-- whatever `repair` keeps reads back cleanly: after repairing *any* byte string the segment is a
well-formed log holding exactly the records that were readable before the first error -/
theorem C12_repair_reads_back (P : Params) (file : Bytes) :
    readAll P (repair P file) = ((readAll P file).1, .eof) := by
  unfold repair
  exact wal_roundtrip P _

/-- records appended after repairing any damaged segment are read back on the next open -/
theorem C12_append_after_repair (P : Params) (file : Bytes) (rs : List Bytes) :
    readAll P (appendSession P (repair P file) rs) = ((readAll P file).1 ++ rs, .eof) := by
  unfold repair
  exact C12_resume P _ rs

/-- the constants of the real code satisfy the model's side conditions (re-checked against
`src/wal/mod.rs` on every run through the regenerated `Consts.lean`) -/
theorem C12_consts_ok :
    7 < Consts.walBlockSize ∧ Consts.walBlockSize ≤ 65535 + 7 ∧ Consts.walHeaderSize = 7 ∧
    Consts.recFull = 1 ∧ Consts.recFirst = 2 ∧ Consts.recMiddle = 3 ∧ Consts.recLast = 4 ∧
    Consts.recEmpty = 0 ∧ Consts.recSetCompression = 9 := by decide

/-- **C12.2 torn tail.** A log cut at ANY byte — a crash in the middle of a write, wherever the cut falls
with respect to fragment headers, fragment data, block padding and block boundaries — reads as a prefix
of the records that were written: never a record that was not written, never a later record without the
earlier ones, never a damaged one (for every block size above the header size, every list of records of
any sizes, every checksum function). -/
theorem C12_truncation_prefix (P : Params) (rs : List Bytes) (n : Nat) :
    (readAll P ((writeAll P 0 rs).1.take n)).1 <+: rs :=
  wal_truncation_prefix P rs n

/-- and the repaired log (what recovery leaves on disk) holds exactly that prefix and reads back clean -/
theorem C12_truncation_repair (P : Params) (rs : List Bytes) (n : Nat) :
    readAll P (repair P ((writeAll P 0 rs).1.take n)) = ((readAll P ((writeAll P 0 rs).1.take n)).1, .eof) ∧
      (readAll P ((writeAll P 0 rs).1.take n)).1 <+: rs :=
  ⟨C12_repair_reads_back P _, wal_truncation_prefix P rs n⟩

/-- **records before the damage.** If the file holds the encoding of `rs` followed by anything at all — the
rest of the log with a byte altered, a record cut off, garbage — reading returns `rs` first, complete and in
order (what follows them is decided by the checksums: end-of-log, a corruption report, or the intact rest).
With `writeAll_append` this is "every record lying wholly before the damage is returned". -/
theorem C12_records_before_damage (P : Params) (rs : List Bytes) (junk : Bytes) :
    rs <+: (readAll P ((writeAll P 0 rs).1 ++ junk)).1 := by
  obtain ⟨rf, h⟩ := readAll_writeAll_append P rs junk
  rw [h]
  exact List.prefix_append _ _

/-- the same for damage inside a log of `rs1 ++ rs2`: the bytes from the end of `rs1`'s encoding on are
replaced by `junk` -/
theorem C12_damage_after_prefix (P : Params) (rs1 rs2 : List Bytes) (junk : Bytes) :
    ((writeAll P 0 (rs1 ++ rs2)).1.take (writeAll P 0 rs1).1.length = (writeAll P 0 rs1).1) ∧
    rs1 <+: (readAll P ((writeAll P 0 (rs1 ++ rs2)).1.take (writeAll P 0 rs1).1.length ++ junk)).1 := by
  have htake : (writeAll P 0 (rs1 ++ rs2)).1.take (writeAll P 0 rs1).1.length = (writeAll P 0 rs1).1 := by
    rw [(writeAll_append P rs1 rs2 0).1, List.take_left']; rfl
  exact ⟨htake, by rw [htake]; exact C12_records_before_damage P rs1 junk⟩
