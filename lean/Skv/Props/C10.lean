import Skv.Lemmas.GetAtAny
import Skv.Spec.CompactSpec
/-!
# C10 — time-travel reads and version history are exact and permanent

Model: `histKeyFwd` / `histFwd` (the forward loop of `HistoryIterator` for one key and for a key
range with the limit), `getAt` (`Snapshot::get_at` on top of it), `compactKey` with versioning
and retention (shared with C01/C06).  Specification: `specKey` / `specHistory` / `specGetAt`
(retained versions = newer than the newest visible barrier, hard delete exclusive, replace
inclusive), and for compaction `specOK` (every non-expired retained version of every observer
survives, nothing erased comes back, the newest barrier stays above the last level).
Proved: the forward history scan equals the property for every version list, snapshot, tombstone
option and limit when no timestamp range is given (`C10_history_forward`) or each key's timestamps do
not increase towards older versions (`C10_history_forward_ts_range`); the backward scan for every
range (`C10_history_backward_ts_range`); `get_at` for pairwise different timestamps
(`C10_get_at_any_order`).  Kernel-checked witnesses: of a repaired defect, a timestamp range that
ends below a hard delete listed versions the delete erased (`fixed_ts_range_skipped_barrier`); of
where the code departs from the property (known findings): compaction with versioning drops a
non-newest hard delete while keeping what it erased, drops versions newer than a replace, and drops
retained versions when a snapshot is registered (`C10_finding_compaction_*`).  Seeks, both index
back-ends, placement independence and crash images are validated by the correspondence streams, not
proved (partial).
-/

theorem C10_history_forward (o : HOpts) (hr : o.range = none) (snap : Nat) (keys : List (Nat × List HVer)) :
    histFwd o snap keys = specHistory o snap keys := histFwd_eq_spec (.inl hr) snap

theorem C10_history_key (o : HOpts) (hr : o.range = none) (snap : Nat) (vs : List HVer) :
    histKeyFwd o.tombs o.range snap false false false vs = specKey o snap vs :=
  histKeyFwd_eq_spec (.inl hr) snap

/-- the limit keeps a prefix of the unlimited listing -/
theorem C10_limit_prefix (o : HOpts) (snap : Nat) (keys : List (Nat × List HVer)) (n : Nat) :
    histFwd { o with limit := some n } snap keys = (histFwd { o with limit := none } snap keys).take n := by
  simp [histFwd, applyLimit]

/-- **history with a timestamp range** (after the `fix:` commit that lets a version above the range take
part in the barrier logic): forward, for every range, snapshot, option set and limit, provided the
timestamps of a key's versions do not increase towards older versions (the cut below the range relies on
it; the store stamps versions with the commit time, `set_at` callers choose their own) -/
theorem C10_history_forward_ts_range (o : HOpts) (snap : Nat) (keys : List (Nat × List HVer))
    (hd : ∀ kv ∈ keys, TsNonInc kv.2) : histFwd o snap keys = specHistory o snap keys :=
  histFwd_eq_spec (.inr hd) snap

/-- non-vacuity of `C10_history_forward`: a history with a soft delete, a replace barrier and an
invisible newer version -/
example :
    let vs : List HVer := [⟨9, .set, 90, 9⟩, ⟨5, .softDelete, 50, 0⟩, ⟨4, .set, 40, 4⟩, ⟨3, .replace, 30, 3⟩, ⟨1, .set, 10, 1⟩]
    specKey { tombs := true } 8 vs = [⟨5, .softDelete, 50, 0⟩, ⟨4, .set, 40, 4⟩, ⟨3, .replace, 30, 3⟩] ∧
      specKey {} 8 vs = [⟨4, .set, 40, 4⟩, ⟨3, .replace, 30, 3⟩] ∧
      getAt 8 45 vs = some 4 ∧ getAt 8 55 vs = none ∧ specGetAt 8 35 vs = some 3 := by decide

/-- **backward history.** `seek_last` / `prev` list, for the keys taken from the end of the range, each
key's retained versions oldest first: the forward listing read from the other end (the limit then cuts
that sequence).  The per-key loop collects the versions oldest first and searches the newest barrier from
the newest end; `histKeyBwd` is a literal model of it.  For every timestamp range, with no assumption on the
timestamps: the backward loop never cuts. -/
theorem C10_history_backward_ts_range (o : HOpts) (snap : Nat) (keys : List (Nat × List HVer)) :
    histBwd o snap keys =
      applyLimit o ((keys.flatMap (fun kv => (specKey o snap kv.2).map (fun v => (kv.1, v)))).reverse) := by
  unfold histBwd
  simp only [List.reverse_flatMap, Function.comp_def, histKeyBwd_eq_spec, List.map_reverse]

/-- the same without a timestamp range -/
theorem C10_history_backward (o : HOpts) (hr : o.range = none) (snap : Nat) (keys : List (Nat × List HVer)) :
    histBwd o snap keys =
      applyLimit o ((keys.flatMap (fun kv => (specKey o snap kv.2).map (fun v => (kv.1, v)))).reverse) :=
  C10_history_backward_ts_range o snap keys

theorem C10_history_backward_key (tombs : Bool) (snap : Nat) (vs : List HVer) :
    histKeyBwd tombs none snap vs = (specKey { tombs := tombs, range := none } snap vs).reverse :=
  histKeyBwd_eq_spec (o := { tombs := tombs, range := none }) snap

/-- non-vacuity: set, soft delete, replace, set, hard-deleted older history — backward lists from the
replace on, oldest first -/
example :
    (histKeyBwd true none 100
      [⟨5, .set, 50, 5⟩, ⟨4, .replace, 40, 4⟩, ⟨3, .softDelete, 30, 0⟩, ⟨2, .set, 20, 2⟩]).map (·.seq) = [4, 5] := rfl

/-- **time-travel read**: `get_at` returns the value of the retained version with the greatest
timestamp not above `t` (nothing if that version is a tombstone or none exists), for version lists
whose timestamps strictly decrease from newest to oldest -/
theorem C10_get_at (snap t : Nat) (vs : List HVer) (h : TsDesc vs) : getAt snap t vs = specGetAt snap t vs :=
  getAt_eq_spec snap t vs h

/-- **get_at, any order of the listing.** When the timestamps of a key's versions are pairwise different,
`get_at` returns the retained version with the greatest timestamp not above `t` (nothing if that is a delete)
whatever order the versions are listed in — no assumption that timestamps follow the commit order. -/
theorem C10_get_at_any_order (snap t : Nat) (vs : List HVer) (h : TsDistinct vs) :
    getAt snap t vs = specGetAt snap t vs := getAt_eq_spec_distinct h snap t

/-- **get_at with back-filled timestamps.** For a key holding sets only, the answer computed over the commit
order (unflushed versions) is the specification's answer over the timestamp order (the version index): the
same before and after the flush. -/
theorem C10_get_at_back_filled_sets (snap t : Nat) (vs : List HVer) (hs : AllSets vs) (hd : TsDistinct vs) :
    getAt snap t vs = specGetAt snap t (sortTs vs) := by
  rw [C10_get_at_any_order snap t vs hd]
  unfold specGetAt
  rw [specKey_sets hs, specKey_sets fun v hv => hs v ((sortTs_perm vs).subset hv)]
  have hperm : ((vs.filter (fun v => decide (v.seq ≤ snap))).filter (fun v => decide (v.ts ≤ t))).Perm
      (((sortTs vs).filter (fun v => decide (v.seq ≤ snap))).filter (fun v => decide (v.ts ≤ t))) :=
    ((sortTs_perm vs).symm.filter _).filter _
  simp only [hperm.foldl_eq' (f := specPick) (fun x hx y hy z => specPick_comm
    (ts_inj_of_distinct (hd.sublist (List.filter_sublist.trans List.filter_sublist)) hx hy) z) none]

/-- non-vacuity: put@300, put@100, put@200 in commit order newest first -/
example : AllSets [⟨3, .set, 200, 3⟩, ⟨2, .set, 100, 2⟩, ⟨1, .set, 300, 1⟩] ∧
    TsDistinct [⟨3, .set, 200, 3⟩, ⟨2, .set, 100, 2⟩, ⟨1, .set, 300, 1⟩] := by
  unfold AllSets TsDistinct; decide

/-- **exactly once.**  When the merge delivers some versions of a key twice in a row (the version index
and a replayed memtable after a crash inside a flush; two memtables after a retried apply), the listing
is the one of the versions themselves: every retained version once.  Sequence numbers of distinct
versions of a key differ. -/
theorem C10_each_version_once (o : HOpts) (hr : o.range = none) (snap : Nat) (vs : List HVer)
    (twice : HVer → Bool) (hd : vs.Pairwise (fun a b => a.seq ≠ b.seq)) :
    histKeyFwdD o.tombs o.range snap (withCopies twice vs) = specKey o snap vs := by
  unfold histKeyFwdD
  rw [dedupAdj_withCopies twice hd]
  exact histKeyFwd_eq_spec (.inl hr) snap

/-- the loop before the `fix:` commit (no pass over repeated versions) lists a version delivered twice
twice -/
theorem fixed_history_listed_a_replayed_version_twice :
    (histKeyFwd true none 100 false false false
      (withCopies (fun v => decide (v.seq ≥ 11)) [⟨12, .set, 12, 1⟩, ⟨11, .set, 11, 1⟩, ⟨3, .set, 3, 1⟩])).map (·.seq)
      = [12, 12, 11, 11, 3] ∧
    (histKeyFwdD true none 100
      (withCopies (fun v => decide (v.seq ≥ 11)) [⟨12, .set, 12, 1⟩, ⟨11, .set, 11, 1⟩, ⟨3, .set, 3, 1⟩])).map (·.seq)
      = [12, 11, 3] := by decide

/-- the forward loop as it was before the `fix:` commit: a version above the range was skipped before
the barrier logic saw it -/
def histKeyFwdOld (tombs : Bool) (range : Option (Nat × Nat)) (snap : Nat) : Bool → Bool → Bool → List HVer → List HVer
  | _, _, _, [] => []
  | fs, lh, bs, v :: rest =>
    if v.seq > snap then histKeyFwdOld tombs range snap fs lh bs rest
    else
      match range with
      | some (a, b) =>
        if v.ts > b then histKeyFwdOld tombs range snap fs lh bs rest
        else if v.ts < a then []
        else histStep tombs fs lh bs v (fun fs lh bs => histKeyFwdOld tombs range snap fs lh bs rest)
      | none => histStep tombs fs lh bs v (fun fs lh bs => histKeyFwdOld tombs range snap fs lh bs rest)

/-- the repaired defect: set@10, hard delete@50, queried with timestamp range [0, 40]: the delete was
skipped by the range filter before it could act as a barrier, so the erased version was listed -/
theorem fixed_ts_range_skipped_barrier :
    let vs : List HVer := [⟨2, .delete, 50, 0⟩, ⟨1, .set, 10, 7⟩]
    let o : HOpts := { range := some (0, 40) }
    histKeyFwdOld o.tombs o.range 100 false false false vs = [⟨1, .set, 10, 7⟩] ∧
    histKeyFwd o.tombs o.range 100 false false false vs = [] ∧ specKey o 100 vs = [] := by decide

/-- without the timestamp assumption the cut below the range loses versions: a version written with
`set_at` at a timestamp above an older one's -/
theorem ts_cut_needs_ordered_timestamps :
    let vs : List HVer := [⟨2, .set, 5, 0⟩, ⟨1, .set, 30, 7⟩]
    let o : HOpts := { range := some (20, 40) }
    histKeyFwd o.tombs o.range 100 false false false vs = [] ∧ specKey o 100 vs = [⟨1, .set, 30, 7⟩] := by decide

/-- known finding `history-commit-order-until-flush`: put@300, put@100, put@200 (back-filled timestamps, version
index).  While unflushed the loop sees the versions in commit order and lists 200, 100, 300; the index (and the
property) order them by timestamp: 300, 200, 100 — the listing changes with the flush. -/
theorem C10_finding_commit_order_until_flush :
    let vs : List HVer := [⟨3, .set, 200, 3⟩, ⟨2, .set, 100, 2⟩, ⟨1, .set, 300, 1⟩]
    (histKeyFwd true none 100 false false false vs).map (·.ts) = [200, 100, 300] ∧
    (specKey { tombs := true } 100 (sortTs vs)).map (·.ts) = [300, 200, 100] ∧
    getAt 100 300 vs = specGetAt 100 300 (sortTs vs) := by decide

/-- known finding (compaction, versioning, above the last level): soft delete@4 over hard delete@2:
the hard delete is dropped ("older DELETE: always stale"), so it no longer erases the versions of
the key in lower levels -/
theorem C10_finding_compaction_drops_barrier :
    let c : CCfg := ⟨false, true, 0, 20⟩
    let vs : List Ver := [⟨4, .softDelete, 4⟩, ⟨2, .delete, 2⟩]
    compactKey c [] vs = [⟨4, .softDelete, 4⟩] ∧ specOK c [] vs (compactKey c [] vs) = false := by decide

/-- known finding: set@6, hard delete@4, set@2: the delete goes, set@2 stays — the erased version is back -/
theorem C10_finding_compaction_resurrects :
    let c : CCfg := ⟨false, true, 0, 20⟩
    let vs : List Ver := [⟨6, .set, 6⟩, ⟨4, .delete, 4⟩, ⟨2, .set, 2⟩]
    compactKey c [] vs = [⟨6, .set, 6⟩, ⟨2, .set, 2⟩] ∧ specOK c [] vs (compactKey c [] vs) = false := by decide

/-- known finding: set@6, set@4 over replace@2 with unlimited retention: set@4 (newer than the replace) is dropped -/
theorem C10_finding_compaction_drops_newer_than_replace :
    let c : CCfg := ⟨true, true, 0, 20⟩
    let vs : List Ver := [⟨6, .set, 6⟩, ⟨4, .set, 4⟩, ⟨2, .replace, 2⟩]
    (compactKey c [] vs).contains ⟨4, .set, 4⟩ = false ∧ specOK c [] vs (compactKey c [] vs) = false := by decide

/-- known finding: a registered snapshot makes compaction drop a retained version although versioning is on -/
theorem C10_finding_compaction_snapshot_drops_history :
    let c : CCfg := ⟨true, true, 0, 20⟩
    let vs : List Ver := [⟨6, .set, 6⟩, ⟨4, .set, 4⟩, ⟨2, .set, 2⟩]
    (compactKey c [7] vs).length < 3 ∧ specOK c [7] vs (compactKey c [7] vs) = false := by decide
